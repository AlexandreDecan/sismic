import Sismic.Proofs.Tree
import Sismic.Proofs.Edit
/-!
# Sismic.Proofs.Desc — `descendants_for` (breadth-first, with fuel) ↔ `Anc`
-/
namespace Sismic

variable (c : Chart)

theorem descF_sound (hch : ∀ p ch, ch ∈ c.childrenFor p → c.parentFor ch = some p) :
    ∀ (f : Nat) (q : List Name) (x : Name), x ∈ c.descF f q → ∃ n ∈ q, Anc c n x := by
  intro f
  induction f with
  | zero => intro q x h; simp [Chart.descF] at h
  | succ f ih =>
    intro q x h
    cases q with
    | nil => simp [Chart.descF] at h
    | cons n rest =>
      simp only [Chart.descF, List.mem_append] at h
      rcases h with h | h
      · exact ⟨n, List.mem_cons_self, Anc.base (hch n x h)⟩
      · obtain ⟨m, hm, ha⟩ := ih _ x h
        rcases List.mem_append.mp hm with hm | hm
        · exact ⟨m, List.mem_cons_of_mem _ hm, ha⟩
        · exact ⟨n, List.mem_cons_self, (Anc.base (hch n m hm)).trans ha⟩

/-- the breadth-first frontier: no element is (in the subtree of) another -/
def Unrel (c : Chart) (q : List Name) : Prop := q.Pairwise (fun a b => ¬ Sub c a b ∧ ¬ Sub c b a)

/-- one turn of the breadth-first loop: the children of the head join the frontier, which stays
    unrelated (siblings have disjoint subtrees, and a child of `n` is related to nothing `n` is not) -/
theorem Unrel.step {n : Name} {rest : List Name} (hT : TreeOK c)
    (hch : ∀ p ch, ch ∈ c.childrenFor p ↔ c.parentFor ch = some p) (hnd : ∀ p, (c.childrenFor p).Nodup)
    (hun : Unrel c (n :: rest)) : Unrel c (rest ++ c.childrenFor n) := by
  simp only [Unrel, List.pairwise_append]
  have hp := List.pairwise_cons.mp hun
  refine ⟨hp.2, ?_, ?_⟩
  · refine (List.pairwise_iff_forall_sublist.mpr ?_)
    intro a b hab
    have pa := (hch n a).mp (hab.subset (by simp))
    have pb := (hch n b).mp (hab.subset (by simp))
    have hne : a ≠ b := fun e => (List.pairwise_iff_forall_sublist.mp (hnd n)) hab e
    exact ⟨fun e => siblings_disjoint c hT pa pb hne e (Or.inl rfl),
      fun e => siblings_disjoint c hT pa pb hne (Or.inl rfl) e⟩
  · intro r hr k hk
    have pk := (hch n k).mp hk
    have hnr := hp.1 r hr
    exact ⟨fun e => e.elim (fun e => hnr.1 (Or.inr (e ▸ Anc.base pk))) (fun e => hnr.2 (Sub.of_anc_child e pk)),
      fun e => hnr.1 (Sub.trans' (Or.inr (Anc.base pk)) e)⟩

theorem descF_complete (hT : TreeOK c) (hch : ∀ p ch, ch ∈ c.childrenFor p ↔ c.parentFor ch = some p)
    (hnd : ∀ p, (c.childrenFor p).Nodup) :
    ∀ (f : Nat) (q : List Name), Unrel c q →
      (∃ L : List Name, L.Nodup ∧ (∀ x, (∃ n ∈ q, Sub c n x) → x ∈ L) ∧ L.length < f) →
      ∀ n ∈ q, ∀ x, Anc c n x → x ∈ c.descF f q := by
  intro f
  induction f with
  | zero => intro q _ ⟨L, _, _, hl⟩; omega
  | succ f ih =>
    intro q hun ⟨L, hLn, hLc, hLl⟩ m hm x hax
    cases q with
    | nil => simp at hm
    | cons n rest =>
      simp only [Chart.descF, List.mem_append]
      have hun' := hun.step c hT hch hnd
      have hn_in : n ∈ L := hLc n ⟨n, List.mem_cons_self, Or.inl rfl⟩
      have hL' : ∃ L' : List Name, L'.Nodup ∧ (∀ x, (∃ k ∈ rest ++ c.childrenFor n, Sub c k x) → x ∈ L') ∧ L'.length < f := by
        refine ⟨L.erase n, hLn.erase n, ?_, ?_⟩
        · intro y ⟨k, hk, hs⟩
          have hy : y ∈ L := by
            apply hLc
            rcases List.mem_append.mp hk with hk | hk
            · exact ⟨k, List.mem_cons_of_mem _ hk, hs⟩
            · exact ⟨n, List.mem_cons_self, Sub.trans' (Or.inr (Anc.base ((hch n k).mp hk))) hs⟩
          have hne : y ≠ n := by
            intro e; subst e
            rcases List.mem_append.mp hk with hk | hk
            · exact ((List.pairwise_cons.mp hun).1 k hk).2 hs
            · exact not_sub_parent c hT ((hch y k).mp hk) hs
          exact (List.mem_erase_of_ne hne).mpr hy
        · have := List.length_pos_of_mem hn_in
          rw [List.length_erase_of_mem hn_in]; omega
      rcases List.mem_cons.mp hm with rfl | hm
      · obtain ⟨k, pk, hs⟩ := Anc.child_of hax
        have hk : k ∈ c.childrenFor m := (hch m k).mpr pk
        rcases hs with e | e
        · left; rw [e]; exact hk
        · right; exact ih _ hun' hL' k (List.mem_append_right _ hk) x e
      · right; exact ih _ hun' hL' m (List.mem_append_left _ hm) x hax

/-- **`descendants_for(s)` lists exactly the proper descendants of `s`** -/
theorem mem_descendants (h : WFChart c) (s : Name) (hs : c.hasState s = true) (x : Name) :
    x ∈ c.descendants s ↔ Anc c s x := by
  constructor
  · intro hx
    obtain ⟨n, hn, ha⟩ := descF_sound c (fun p ch hc => (h.children p ch).mp hc) _ _ x hx
    simp only [List.mem_singleton] at hn
    exact hn ▸ ha
  · intro ha
    refine descF_complete c h.tree h.children h.childrenNodup _ [s] (List.pairwise_singleton _ _)
      ⟨c.states.map (·.name), h.names, ?_, by simp⟩ s (List.mem_singleton.mpr rfl) x ha
    intro y ⟨n, hn, hsub⟩
    simp only [List.mem_singleton] at hn
    subst hn
    rcases hsub with e | e
    · rw [e]; exact (hasState_iff_mem c n).mp hs
    · -- a proper descendant has a parent, hence is a state
      cases e with
      | base hp | step hp _ => exact (hasState_iff_mem c y).mp (h.parentState _ _ hp).1

theorem descF_nodup (hT : TreeOK c)
    (hch : ∀ p ch, ch ∈ c.childrenFor p ↔ c.parentFor ch = some p) (hnd : ∀ p, (c.childrenFor p).Nodup) :
    ∀ (f : Nat) (q : List Name), Unrel c q → (c.descF f q).Nodup := by
  intro f
  induction f with
  | zero => intro q _; simp [Chart.descF]
  | succ f ih =>
    intro q hun
    cases q with
    | nil => simp [Chart.descF]
    | cons n rest =>
      simp only [Chart.descF]
      have hp := List.pairwise_cons.mp hun
      have hun' := hun.step c hT hch hnd
      rw [List.nodup_append]
      refine ⟨hnd n, ih _ hun', ?_⟩
      intro a ha b hb e
      subst e
      -- `a` is a child of `n` and a proper descendant of something in the new frontier
      obtain ⟨m, hm, ham⟩ := descF_sound c (fun p ch hc => (hch p ch).mp hc) _ _ a hb
      have pa := (hch n a).mp ha
      rcases List.mem_append.mp hm with hm | hm
      · have hnr := hp.1 m hm
        exact hnr.2 (Sub.of_anc_child ham pa)
      · have pm := (hch n m).mp hm
        by_cases hma : m = a
        · rw [hma] at ham; exact Anc.irrefl' c hT ham
        · exact siblings_disjoint c hT pm pa hma (Or.inr ham) (Or.inl rfl)

theorem descendants_nodup (c : Chart) (hw : WFChart c) (s : Name) : (c.descendants s).Nodup :=
  descF_nodup c hw.tree hw.children hw.childrenNodup _ [s] (List.pairwise_singleton _ _)

theorem descF_nil : ∀ f : Nat, c.descF f [] = []
  | 0 => rfl
  | _+1 => rfl

/-- `mem_descendants` without assuming that `s` is a state -/
theorem mem_descendants' (c : Chart) (h : WFChart c) (s x : Name) : x ∈ c.descendants s ↔ Anc c s x := by
  by_cases hs : c.hasState s = true
  · exact mem_descendants c h s hs x
  · have hnc : c.childrenFor s = [] := by
      apply List.eq_nil_iff_forall_not_mem.mpr
      intro ch hch
      exact hs (h.parentState ch s ((h.children s ch).mp hch)).2
    constructor
    · intro hx
      simp only [Chart.descendants, Chart.descF, hnc, List.append_nil, descF_nil] at hx
      simp at hx
    · intro ha
      exfalso
      obtain ⟨k, hk, _⟩ := Anc.child_of ha
      exact hs (h.parentState k s hk).2

end Sismic
