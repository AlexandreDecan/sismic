import Sismic.Proofs.GroupBy
import Sismic.Proofs.Tree
/-!
# Sismic.Proofs.Select — the selection inside one eventness group equals its declarative spec
-/
namespace Sismic

variable (c : Chart) (hT : TreeOK c) (ok : Trans → Bool)

def GroupSpec (G : List Trans) (t : Trans) : Prop :=
  t ∈ G ∧ ok t = true ∧
  (∀ u ∈ G, ok u = true → t.source ∉ c.ancestors u.source) ∧
  (∀ u ∈ G, u.source = t.source → ok u = true → u.priority ≤ t.priority)

/-! ### priority classes -/
theorem lePrio_total : TotalLE lePrio where
  total a b := by simp only [lePrio, decide_eq_true_eq]; exact Int.le_total b a
  antisymm a b h1 h2 := by simp only [lePrio, decide_eq_true_eq] at h1 h2; exact Int.le_antisymm h2 h1
  trans a b c h1 h2 := by simp only [lePrio, decide_eq_true_eq] at *; exact Int.le_trans h2 h1

theorem goClasses_isSome (ts : List Trans) : ∀ ps : List Int,
    (goClasses ok ts ps).isSome = true ↔ ∃ t ∈ ts, ok t = true ∧ t.priority ∈ ps
  | [] => by simp [goClasses]
  | p :: ps => by
    unfold goClasses
    simp only
    split
    · next hany =>
      simp only [List.any_eq_true, List.mem_filter, decide_eq_true_eq] at hany
      obtain ⟨w, ⟨hw, hwp⟩, hwok⟩ := hany
      exact ⟨fun _ => ⟨w, hw, hwok, hwp ▸ List.mem_cons_self⟩, fun _ => rfl⟩
    · next hany =>
      rw [goClasses_isSome ts ps]
      refine exists_congr fun t => and_congr_right fun ht => and_congr_right fun hok => ?_
      refine ⟨List.mem_cons_of_mem _, fun h => (List.mem_cons.mp h).resolve_left fun e => hany ?_⟩
      exact List.any_eq_true.mpr ⟨t, List.mem_filter.mpr ⟨ht, by simpa using e⟩, hok⟩

/-- over a strictly decreasing list of priorities, `goClasses` returns the enabled transitions of
    the highest priority that has one -/
theorem mem_goClasses (ts : List Trans) (t : Trans) : ∀ ps : List Int, StrictSorted lePrio ps →
    (t ∈ (goClasses ok ts ps).getD [] ↔ (t ∈ ts ∧ ok t = true ∧ t.priority ∈ ps ∧
      ∀ u ∈ ts, ok u = true → u.priority ∈ ps → u.priority ≤ t.priority))
  | [], _ => by simp [goClasses]
  | p :: ps, hs => by
    have hp : ∀ q ∈ ps, q < p := by
      intro q hq
      have := (List.pairwise_cons.mp hs).1 q hq
      simp only [lePrio, decide_eq_true_eq, ne_eq] at this
      exact Int.lt_iff_le_and_ne.mpr ⟨this.1, Ne.symm this.2⟩
    unfold goClasses
    simp only
    split
    · next hany =>
      simp only [Option.getD_some, List.mem_filter, List.any_eq_true, decide_eq_true_eq] at hany ⊢
      constructor
      · rintro ⟨⟨ht, hpr⟩, hok⟩
        refine ⟨ht, hok, hpr ▸ List.mem_cons_self, ?_⟩
        intro u _ _ hup
        rcases List.mem_cons.mp hup with h | h
        · exact Int.le_of_eq (h.trans hpr.symm)
        · exact Int.le_of_lt (hpr ▸ hp _ h)
      · rintro ⟨ht, hok, hpr, hmax⟩
        refine ⟨⟨ht, ?_⟩, hok⟩
        obtain ⟨w, ⟨hw, hwp⟩, hwok⟩ := hany
        rcases List.mem_cons.mp hpr with h | h
        · exact h
        · have h1 : p ≤ t.priority := hwp ▸ hmax w hw hwok (hwp ▸ List.mem_cons_self)
          exact absurd h1 (Int.not_le.mpr (hp _ h))
    · next hany =>
      have hnone : ∀ u ∈ ts, ok u = true → u.priority ≠ p := fun u hu hok hpr =>
        hany (List.any_eq_true.mpr ⟨u, List.mem_filter.mpr ⟨hu, by simpa using hpr⟩, hok⟩)
      rw [mem_goClasses ts t ps (List.pairwise_cons.mp hs).2]
      refine and_congr_right fun ht => and_congr_right fun hok => ?_
      constructor
      · rintro ⟨hpr, hmax⟩
        exact ⟨List.mem_cons_of_mem _ hpr, fun u hu huok hup =>
          hmax u hu huok ((List.mem_cons.mp hup).resolve_left (hnone u hu huok))⟩
      · rintro ⟨hpr, hmax⟩
        exact ⟨(List.mem_cons.mp hpr).resolve_left (hnone t ht hok),
          fun u hu huok hup => hmax u hu huok (List.mem_cons_of_mem _ hup)⟩

/-! ### one source -/
variable (G : List Trans)

def HasOk (s : Name) : Prop := ∃ t ∈ G, t.source = s ∧ ok t = true

def Top (t : Trans) : Prop :=
  t ∈ G ∧ ok t = true ∧ ∀ u ∈ G, u.source = t.source → ok u = true → u.priority ≤ t.priority

theorem mem_goClasses_src (src : Name) (t : Trans) :
    t ∈ (goClasses ok (G.filter (fun t => t.source = src))
        (keysSorted lePrio (·.priority) (G.filter (fun t => t.source = src)))).getD [] ↔
      (Top ok G t ∧ t.source = src) := by
  rw [mem_goClasses ok _ t _ (keysSorted_sorted lePrio lePrio_total _ _)]
  constructor
  · rintro ⟨ht, htok, _, hmax⟩
    obtain ⟨htG, hts⟩ : t ∈ G ∧ t.source = src := by simpa using ht
    exact ⟨⟨htG, htok, fun u hu hus huok =>
      have hu' : u ∈ G.filter (fun t => t.source = src) := by simp [hu, hus, hts]
      hmax u hu' huok (key_mem_keysSorted _ _ _ hu')⟩, hts⟩
  · rintro ⟨⟨htG, htok, hmax⟩, hts⟩
    have ht : t ∈ G.filter (fun t => t.source = src) := by simp [htG, hts]
    refine ⟨ht, htok, key_mem_keysSorted _ _ _ ht, fun u hu huok _ => ?_⟩
    obtain ⟨huG, hus⟩ : u ∈ G ∧ u.source = src := by simpa using hu
    exact hmax u huG (hus.trans hts.symm) huok

theorem goClasses_src_isSome (src : Name) :
    (goClasses ok (G.filter (fun t => t.source = src))
        (keysSorted lePrio (·.priority) (G.filter (fun t => t.source = src)))).isSome = true ↔
      HasOk ok G src := by
  rw [goClasses_isSome]
  constructor
  · rintro ⟨t, ht, htok, _⟩
    obtain ⟨htG, hts⟩ : t ∈ G ∧ t.source = src := by simpa using ht
    exact ⟨t, htG, hts, htok⟩
  · rintro ⟨t, htG, hts, htok⟩
    have ht : t ∈ G.filter (fun t => t.source = src) := by simp [htG, hts]
    exact ⟨t, ht, htok, key_mem_keysSorted _ _ _ ht⟩

/-- one iteration of the loop over the sources: a source that is not ignored contributes its best
    enabled transitions and, if it has any, puts itself and its ancestors on the ignore list -/
theorem stepSrc_spec (st : SelSt) (src : Name) :
    (∀ t, t ∈ (stepSrc c ok G st src).selected ↔
      (t ∈ st.selected ∨ (src ∉ st.ignored ∧ Top ok G t ∧ t.source = src))) ∧
    (∀ a, a ∈ (stepSrc c ok G st src).ignored ↔
      (a ∈ st.ignored ∨ (src ∉ st.ignored ∧ HasOk ok G src ∧ (a = src ∨ a ∈ c.ancestors src)))) := by
  unfold stepSrc
  by_cases h : src ∈ st.ignored
  · simp [h]
  · simp only [h, if_false, not_false_eq_true, true_and]
    have hsel := mem_goClasses_src ok G src
    have hsome := goClasses_src_isSome ok G src
    cases hgo : goClasses ok (G.filter (fun t => t.source = src))
        (keysSorted lePrio (·.priority) (G.filter (fun t => t.source = src))) with
    | some sel =>
      simp only [hgo, Option.getD_some, Option.isSome_some, true_iff] at hsel hsome
      refine ⟨fun t => by simp only [List.mem_append, hsel t], fun a => ?_⟩
      simp only [List.mem_append, List.mem_singleton, hsome, true_and]
      exact ⟨fun h => h.elim (fun h => h.elim Or.inl (fun h => Or.inr (Or.inr h))) (fun h => Or.inr (Or.inl h)),
        fun h => h.elim (fun h => Or.inl (Or.inl h))
          (fun h => h.elim (fun h => Or.inr h) (fun h => Or.inl (Or.inr h)))⟩
    | none =>
      simp only [hgo, Option.getD_none, List.not_mem_nil, false_iff, Option.isSome_none,
        Bool.false_eq_true] at hsel hsome
      exact ⟨fun t => by simp only [hsel t, or_false], fun a => by simp only [hsome, false_and, or_false]⟩

/-! ### the fold over the sources -/

theorem exists_argmax {α : Type} (f : α → Int) : ∀ (l : List α), l ≠ [] → ∃ x ∈ l, ∀ y ∈ l, f y ≤ f x := by
  intro l
  induction l with
  | nil => intro h; exact absurd rfl h
  | cons a l ih =>
    intro _
    by_cases hl : l = []
    · subst hl; exact ⟨a, by simp, by simp⟩
    · obtain ⟨x, hx, hmax⟩ := ih hl
      by_cases hax : f x ≤ f a
      · refine ⟨a, by simp, ?_⟩
        intro y hy
        rcases List.mem_cons.mp hy with rfl | hy
        · exact Int.le_refl _
        · exact Int.le_trans (hmax y hy) hax
      · refine ⟨x, List.mem_cons_of_mem _ hx, ?_⟩
        intro y hy
        rcases List.mem_cons.mp hy with rfl | hy
        · omega
        · exact hmax y hy

def Fired (s : Name) : Prop := HasOk ok G s ∧ ¬ ∃ s', s ∈ c.ancestors s' ∧ HasOk ok G s'

include hT in
/-- below (or at) any source with an enabled transition there is one that fires -/
theorem exists_fired_desc (s' : Name) (h : HasOk ok G s') :
    ∃ s'', (s'' = s' ∨ s' ∈ c.ancestors s'') ∧ Fired c ok G s'' := by
  obtain ⟨w, hwG, hws, hwok⟩ := h
  let cand := G.filter (fun t => ok t && (decide (t.source = s') || decide (s' ∈ c.ancestors t.source)))
  have hw : w ∈ cand := by
    simp [cand, List.mem_filter, hwG, hwok, hws]
  obtain ⟨m, hm, hmax⟩ := exists_argmax (fun t => (c.depth t.source : Int)) cand (List.ne_nil_of_mem hw)
  have hm' : m ∈ G ∧ ok m = true ∧ (m.source = s' ∨ s' ∈ c.ancestors m.source) := by
    simpa [cand, List.mem_filter, and_assoc] using hm
  refine ⟨m.source, hm'.2.2, ⟨m, hm'.1, rfl, hm'.2.1⟩, ?_⟩
  rintro ⟨d, hd, u, huG, hus, huok⟩
  have hs'd : s' ∈ c.ancestors d := by
    rcases hm'.2.2 with h | h
    · rw [← h]; exact hd
    · exact ancestors_trans c hT d m.source s' hd h
  have hu : u ∈ cand := by
    simp [cand, List.mem_filter, huG, huok, hus, hs'd]
  have h1 := hmax u hu
  have h2 := ancestors_depth_lt c hT d m.source hd
  simp only [hus] at h1
  omega

structure Inv (pre : List Name) (st : SelSt) : Prop where
  sel : ∀ t, t ∈ st.selected ↔ (Top ok G t ∧ t.source ∈ pre ∧ Fired c ok G t.source)
  ign : ∀ a, a ∈ st.ignored ↔ ∃ s ∈ pre, Fired c ok G s ∧ (a = s ∨ a ∈ c.ancestors s)

include hT in
theorem inv_step (pre : List Name) (s : Name) (st : SelSt)
    (hInv : Inv c ok G pre st) (hs : s ∉ pre)
    (hdeep : ∀ d, HasOk ok G d → c.depth s < c.depth d → d ∈ pre) :
    Inv c ok G (pre ++ [s]) (stepSrc c ok G st s) := by
  have hign : s ∈ st.ignored ↔ ∃ s', s ∈ c.ancestors s' ∧ HasOk ok G s' := by
    rw [hInv.ign]
    constructor
    · rintro ⟨s', hs', hf, h | h⟩
      · exact absurd (h ▸ hs') hs
      · exact ⟨s', h, hf.1⟩
    · rintro ⟨s', hanc, hok'⟩
      obtain ⟨s'', hrel, hf⟩ := exists_fired_desc c hT ok G s' hok'
      have hanc'' : s ∈ c.ancestors s'' := by
        rcases hrel with h | h
        · rw [h]; exact hanc
        · exact ancestors_trans c hT s'' s' s h hanc
      exact ⟨s'', hdeep s'' hf.1 (ancestors_depth_lt c hT s'' s hanc''), hf, Or.inr hanc''⟩
  have hfire : (s ∉ st.ignored ∧ HasOk ok G s) ↔ Fired c ok G s := by rw [hign]; exact and_comm
  obtain ⟨h1, h2⟩ := stepSrc_spec c ok G st s
  constructor
  · intro t
    rw [h1 t, hInv.sel t]
    simp only [List.mem_append, List.mem_singleton]
    constructor
    · rintro (⟨a, b, d⟩ | ⟨a, b, e⟩)
      · exact ⟨a, Or.inl b, d⟩
      · exact ⟨b, Or.inr e, e ▸ hfire.mp ⟨a, t, b.1, e, b.2.1⟩⟩
    · rintro ⟨a, b | b, d⟩
      · exact Or.inl ⟨a, b, d⟩
      · exact Or.inr ⟨(hfire.mpr (b ▸ d)).1, a, b⟩
  · intro a
    rw [h2 a, hInv.ign a, ← and_assoc, hfire]
    constructor
    · rintro (⟨x, hx, h⟩ | ⟨hf, h⟩)
      · exact ⟨x, List.mem_append_left _ hx, h⟩
      · exact ⟨s, by simp, hf, h⟩
    · rintro ⟨x, hx, hfx, h⟩
      rcases List.mem_append.mp hx with hx | hx
      · exact Or.inl ⟨x, hx, hfx, h⟩
      · cases List.mem_singleton.mp hx; exact Or.inr ⟨hfx, h⟩

include hT in
theorem fold_inv (order : List Name)
    (hsorted : StrictSorted (leSrc c) order)
    (hmem : ∀ d, HasOk ok G d → d ∈ order) :
    ∀ (post pre : List Name) (st : SelSt), order = pre ++ post → Inv c ok G pre st →
      Inv c ok G order (post.foldl (stepSrc c ok G) st) := by
  intro post
  induction post with
  | nil => intro pre st h hI; simp at h; subst h; simpa using hI
  | cons s post ih =>
    intro pre st h hI
    have hsplit : order = (pre ++ [s]) ++ post := by simp [h]
    rw [List.foldl_cons]
    apply ih (pre ++ [s]) _ hsplit
    have hs := hsorted
    rw [h, StrictSorted, List.pairwise_append] at hs
    obtain ⟨_, hpost, hcross⟩ := hs
    apply inv_step c hT ok G pre s st hI
    · intro hmem'
      exact (hcross s hmem' s (by simp)).2 rfl
    · intro d hd hdepth
      have := hmem d hd
      rw [h] at this
      rcases List.mem_append.mp this with h1 | h1
      · exact h1
      · exfalso
        rcases List.mem_cons.mp h1 with h2 | h2
        · subst h2; omega
        · have := ((List.pairwise_cons.mp hpost).1 d h2).1
          simp only [leSrc, decide_eq_true_eq] at this
          omega

include hT in
/-- **Characterisation of the selection inside one eventness group.** -/
theorem selectGroup_iff (t : Trans) : t ∈ (selectGroup c ok G).selected ↔ GroupSpec c ok G t := by
  unfold selectGroup
  have hI := fold_inv c hT ok G (keysSorted (leSrc c) (·.source) G)
    (keysSorted_sorted _ (leRevDepthName_total c) _ _)
    (fun _ ⟨_, hu, hud, _⟩ => hud ▸ key_mem_keysSorted _ _ _ hu)
    (keysSorted (leSrc c) (·.source) G) [] {} (by simp)
    ⟨by intro t; simp, by intro a; simp⟩
  rw [hI.sel t]
  unfold GroupSpec Top Fired HasOk
  constructor
  · rintro ⟨⟨htG, htok, hmax⟩, _, ⟨_, hnd⟩⟩
    refine ⟨htG, htok, ?_, hmax⟩
    intro u hu huok hanc
    exact hnd ⟨u.source, hanc, u, hu, rfl, huok⟩
  · rintro ⟨htG, htok, hnd, hmax⟩
    refine ⟨⟨htG, htok, hmax⟩, key_mem_keysSorted _ _ _ htG, ⟨⟨t, htG, rfl, htok⟩, ?_⟩⟩
    rintro ⟨d, hanc, u, hu, hud, huok⟩
    exact hnd u hu huok (hud ▸ hanc)


include hT in
theorem selectGroup_selected_ne_nil : (selectGroup c ok G).selected ≠ [] ↔ ∃ t ∈ G, ok t = true := by
  constructor
  · intro hsel
    obtain ⟨u, hu⟩ := List.exists_mem_of_ne_nil _ hsel
    have := (selectGroup_iff c hT ok G u).mp hu
    exact ⟨u, this.1, this.2.1⟩
  · rintro ⟨u, hu, huok⟩
    -- some source at or below `u.source` fires; take one of its enabled transitions of maximal priority
    obtain ⟨s'', _, hf⟩ := exists_fired_desc c hT ok G u.source ⟨u, hu, rfl, huok⟩
    obtain ⟨w, hwG, hws, hwok⟩ := hf.1
    let cand := G.filter (fun t => decide (t.source = s'') && ok t)
    have hw : w ∈ cand := by simp [cand, hwG, hws, hwok]
    obtain ⟨m, hm, hmax⟩ := exists_argmax (fun t : Trans => t.priority) cand (List.ne_nil_of_mem hw)
    obtain ⟨hmG, hms, hmok⟩ : m ∈ G ∧ m.source = s'' ∧ ok m = true := by simpa [cand, and_assoc] using hm
    refine List.ne_nil_of_mem ((selectGroup_iff c hT ok G m).mpr ⟨hmG, hmok, ?_, ?_⟩)
    · intro v hv hvok hanc'
      exact hf.2 ⟨v.source, hms ▸ hanc', v, hv, rfl, hvok⟩
    · intro v hv hvs hvok
      exact hmax v (by simp [cand, hv, hvs, hms, hvok])

/-! ### the loop only touches transitions of the group -/

theorem goEvaluated_subset (ts : List Trans) : ∀ ps t, t ∈ goEvaluated ok ts ps → t ∈ ts
  | [], _, h => nomatch h
  | p :: ps, t, h => by
    unfold goEvaluated at h
    simp only at h
    split at h
    · exact (List.mem_filter.mp h).1
    · exact (List.mem_append.mp h).elim (fun h => (List.mem_filter.mp h).1) (goEvaluated_subset ts ps t)

theorem stepSrc_selected_sub (c : Chart) (ok : Trans → Bool) (G : List Trans) (st : SelSt) (src : Name)
    (h : ∀ t ∈ st.selected, t ∈ G) : ∀ t ∈ (stepSrc c ok G st src).selected, t ∈ G := by
  intro t ht
  rcases ((stepSrc_spec c ok G st src).1 t).1 ht with h' | h'
  · exact h t h'
  · exact h'.2.1.1

theorem stepSrc_evaluated (st : SelSt) (src : Name)
    (h : ∀ t ∈ st.evaluated, t ∈ G) : ∀ t ∈ (stepSrc c ok G st src).evaluated, t ∈ G := by
  intro t ht
  unfold stepSrc at ht
  split at ht
  · exact h t ht
  · simp only at ht
    split at ht <;>
    · exact (List.mem_append.mp ht).elim (h t) fun ht => (List.mem_filter.mp (goEvaluated_subset ok _ _ t ht)).1

theorem selectGroup_within :
    (∀ t ∈ (selectGroup c ok G).selected, t ∈ G) ∧ ∀ t ∈ (selectGroup c ok G).evaluated, t ∈ G := by
  exact foldl_inv (P := fun st : SelSt => (∀ t ∈ st.selected, t ∈ G) ∧ ∀ t ∈ st.evaluated, t ∈ G)
    (fun st s h => ⟨stepSrc_selected_sub c ok G st s h.1, stepSrc_evaluated c ok G st s h.2⟩) _ {}
    ⟨fun _ h => (nomatch h), fun _ h => (nomatch h)⟩

theorem selected_enabled (c : Chart) (cfg : List Name) (evName : Option String)
    (ok : Trans → Bool → Bool) :
    ∀ t ∈ (selectTransitions c cfg evName ok).selected, t ∈ c.transitions ∧ t.source ∈ cfg := by
  intro t ht
  unfold selectTransitions at ht
  dsimp only at ht
  split at ht <;>
  · have h := List.mem_filter.1 (List.mem_filter.1 ((selectGroup_within c _ _).1 t ht)).1
    exact ⟨h.1, List.contains_iff_mem.mp (Bool.and_eq_true_iff.mp h.2).1⟩

end Sismic
