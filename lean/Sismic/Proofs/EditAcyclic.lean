import Sismic.Proofs.EditValid
import Sismic.Proofs.Desc
/-!
# Sismic.Proofs.EditAcyclic — editing keeps the parent relation acyclic

"Still one tree": the parent map has no cycle, witnessed by a rank that decreases towards the root
(`Ranked`; with `Tidy` — at most one root, `_parent` / `_children` consistent — that is a tree).
`remove_state` only forgets entries; `add_state` hangs a fresh state below an existing one;
`rename_state` renames a node; `move_state` re-hangs a subtree below a state that is **not in that
subtree** — which is what its check `new_parent in [name] + descendants_for(name)` establishes, the
breadth-first `descendants_for` being complete on a consistent acyclic statechart.
-/
namespace Sismic
namespace Chart

/-- the parent map is acyclic: some rank decreases from every state to its parent -/
def Ranked (c : Chart) : Prop := ∃ r : Name → Nat, ∀ s p, c.parentFor s = some p → r p < r s

/-- the same, about every entry of `_parent` (what `remove_state` keeps without further ado) -/
def RankedE (c : Chart) : Prop := ∃ r : Name → Nat, ∀ e ∈ c.parent, ∀ p, e.2 = some p → r p < r e.1

theorem RankedE.ranked {c : Chart} (h : c.RankedE) : c.Ranked := by
  obtain ⟨r, hr⟩ := h
  exact ⟨r, fun s p hp => hr (s, some p) (parentFor_mem c s p hp) p rfl⟩

theorem Ranked.rankedE {c : Chart} (ht : Tidy c) (h : c.Ranked) : c.RankedE := by
  obtain ⟨r, hr⟩ := h
  exact ⟨r, fun e he p hp => hr e.1 p ((mem_entry_of_perm_parent ht.parentKeys he).trans hp)⟩

/-! ### a rank can always be taken below the number of states -/

theorem treeOK_of_ranked (c : Chart) (ht : Tidy c) (h : c.Ranked) (hne : c.states ≠ []) : TreeOK c := by
  obtain ⟨r, hr⟩ := h
  let names := c.states.map (·.name)
  have hpos : 0 < names.length := by
    simp only [names, List.length_map]
    exact List.length_pos_iff.2 hne
  refine ⟨⟨fun s => if s ∈ names then (names.filter (fun t => decide (r t < r s))).length else 0, ?_, ?_⟩⟩
  · intro s p hp
    obtain ⟨hs, hpp⟩ := ht.parent_states s p hp
    have hs' : s ∈ names := (hasState_iff_mem c s).1 hs
    have hp' : p ∈ names := (hasState_iff_mem c p).1 hpp
    simp only [hs', hp', if_true]
    apply filter_length_lt
    · intro x hx
      simp only [decide_eq_true_eq] at hx ⊢
      exact Nat.lt_trans hx (hr s p hp)
    · exact ⟨p, hp', by simpa using hr s p hp, by simp⟩
  · intro s
    show (if s ∈ names then _ else 0) < c.states.length
    have hl : names.length = c.states.length := by simp [names]
    by_cases hs : s ∈ names
    · simp only [hs, if_true]
      rw [← hl]
      exact List.length_filter_lt_length_iff_exists.2 ⟨s, hs, by simp⟩
    · simp only [hs, if_false]
      rw [← hl]; exact hpos

/-! ### `remove_state` -/

theorem removeLeaf_rankedE (c : Chart) (n : Name) (hc : c.RankedE) : (c.removeLeaf n).RankedE := by
  obtain ⟨r, hr⟩ := hc
  refine ⟨r, ?_⟩
  intro e he p hp
  rw [(removeLeaf_fields c n).2.1] at he
  exact hr e (mem_eraseFirst _ _ e he) p hp

theorem removeStateF_rankedE (f : Nat) (c : Chart) (n : Name) (hc : c.RankedE) : (removeStateF f c n).2.RankedE :=
  removeStateF_preserves removeLeaf_rankedE f c n hc

/-! ### `add_state` -/

theorem addedChart_ranked (c : Chart) (s : StateDef) (p : Option Name) (ht : Tidy c) (hfresh : c.hasState s.name = false)
    (hp : ∀ q, p = some q → c.hasState q = true) (hc : c.Ranked) : (addedChart c s p).Ranked := by
  obtain ⟨r, hr⟩ := hc
  have notfresh : ∀ x, c.hasState x = true → x ≠ s.name := by
    intro x hx e; rw [e, hfresh] at hx; cases hx
  refine ⟨fun x => if x = s.name then (match p with | some q => r q + 1 | none => 0) else r x, ?_⟩
  intro x q hx
  rw [added_parentFor c s p ht hfresh] at hx
  by_cases e : x = s.name
  · simp only [e, if_true] at hx ⊢
    subst hx
    have hq := notfresh q (hp q rfl)
    simp only [hq, if_false]
    omega
  · simp only [e, if_false] at hx ⊢
    obtain ⟨_, hqs⟩ := ht.parent_states x q hx
    simp only [notfresh q hqs, if_false]
    exact hr x q hx

theorem addState_ranked (c : Chart) (s : StateDef) (p : Option Name) (ht : Tidy c) (hc : c.Ranked)
    (h : (c.addState s p).1 = .ok ()) : (c.addState s p).2.Ranked := by
  obtain ⟨he, hf, _, hp⟩ := addState_ok c s p h
  rw [he]
  exact addedChart_ranked c s p ht hf hp hc

/-! ### `rename_state` -/

theorem renameState_ranked (c : Chart) (a b : Name) (ht : Tidy c) (hc : c.Ranked) (h : (c.renameState a b).1 = .ok ()) :
    (c.renameState a b).2.Ranked := by
  by_cases hne : a = b
  · subst hne; rw [rename_same_is_noop]; exact hc
  obtain ⟨r, hr⟩ := hc
  obtain ⟨hb, _, _⟩ := renameState_states c a b h hne
  have notb : ∀ x, c.hasState x = true → x ≠ b := by
    intro x hx e; rw [e, hb] at hx; cases hx
  refine ⟨fun x => if x = b then r a else r x, ?_⟩
  intro x q hx
  rw [rename_parentFor c a b ht h hne x] at hx
  by_cases hxa : x = a
  · simp [hxa] at hx
  simp only [hxa, if_false] at hx
  by_cases hxb : x = b
  · -- the renamed state: its parent is the old parent of `a`, which is neither `a` nor `b`
    simp only [hxb, if_true] at hx ⊢
    obtain ⟨_, hqs⟩ := ht.parent_states a q hx
    simp only [notb q hqs, if_false]
    exact hr a q hx
  · simp only [hxb, if_false] at hx ⊢
    by_cases hpa : c.parentFor x = some a
    · simp only [hpa, if_true, Option.some.injEq] at hx
      subst hx
      simp only [if_true]
      exact hr x a hpa
    · simp only [hpa, if_false] at hx
      obtain ⟨_, hqs⟩ := ht.parent_states x q hx
      simp only [notb q hqs, if_false]
      exact hr x q hx

/-! ### `move_state` -/

/-- on a consistent acyclic statechart `descendants_for` misses no descendant -/
theorem descendants_complete (c : Chart) (ht : Tidy c) (hc : c.Ranked) (a : Name) (ha : c.hasState a = true)
    (x : Name) (hx : Anc c a x) : x ∈ c.descendants a := by
  have hne : c.states ≠ [] := by
    intro e
    simp [hasState, stateFor, e] at ha
  have hT := treeOK_of_ranked c ht hc hne
  refine descF_complete c hT ht.childParent ht.childrenNodup _ [a] (List.pairwise_singleton _ _)
    ⟨c.states.map (·.name), ht.names, ?_, by simp⟩ a (List.mem_singleton.mpr rfl) x hx
  intro y ⟨n, hn, hsub⟩
  simp only [List.mem_singleton] at hn
  subst hn
  rcases hsub with e | e
  · rw [e]; exact (hasState_iff_mem c n).1 ha
  · have : c.hasState y = true := by
      cases e with
      | base hp => exact (ht.parent_states _ _ hp).1
      | step hp _ => exact (ht.parent_states _ _ hp).1
    exact (hasState_iff_mem c y).1 this

open Classical in
theorem moveState_ranked (c : Chart) (a b : Name) (ht : Tidy c) (hc : c.Ranked) (h : (c.moveState a b).1 = .ok ()) :
    (c.moveState a b).2.Ranked := by
  obtain ⟨ha, _, _, _, _⟩ := moveState_fields c a b h
  have hchk := (moveState_ok c a b h).2.2.2
  -- the new parent is outside the subtree that moves
  have hout : ¬ (b = a ∨ Anc c a b) := by
    rintro (e | e)
    · simp [e] at hchk
    · have := descendants_complete c ht hc a ha b e
      have hm : b ∈ a :: c.descendants a := List.mem_cons_of_mem _ this
      rw [← List.contains_iff_mem] at hm
      rw [hm] at hchk
      cases hchk
  obtain ⟨r, hr⟩ := hc
  refine ⟨fun x => if (x = a ∨ Anc c a x) then r x + (r b + 1) else r x, ?_⟩
  intro x q hx
  rw [moveState_parentFor c a b h x] at hx
  by_cases hxa : x = a
  · simp only [hxa, if_true, Option.some.injEq] at hx
    subst hx
    simp only [hxa, true_or, if_true, hout, if_false]
    omega
  · simp only [hxa, if_false] at hx
    by_cases hsub : Anc c a x
    · simp only [hxa, false_or, hsub, if_true]
      have := hr x q hx
      split <;> omega
    · have hq : ¬ (q = a ∨ Anc c a q) := by
        rintro (e | e)
        · exact hsub (Anc.base (e ▸ hx))
        · exact hsub (Anc.step hx e)
      simp only [hxa, false_or, hsub, if_false, hq]
      exact hr x q hx

/-! ### sessions -/

theorem applyEdit_rankedE (c : Chart) (op : EditOp) (ht : Tidy c) (hc : c.RankedE) : (c.applyEdit op).2.RankedE :=
  applyEdit_preserves_dicts c op (fun _ => hc)
    (fun s p _ h => (addState_ranked c s p ht hc.ranked h).rankedE (addState_tidy c s p ht h))
    (removeStateF_rankedE _ c · hc)
    (fun a b h => (renameState_ranked c a b ht hc.ranked h).rankedE (renameState_tidy c a b ht h))
    (fun a b h => (moveState_ranked c a b ht hc.ranked h).rankedE (moveState_tidy c a b ht h))

theorem applyEdits_rankedE : ∀ (ops : List EditOp) (c : Chart), Tidy c → c.RankedE → (c.applyEdits ops).RankedE
  | [], _, _, hc => hc
  | op :: ops, c, ht, hc => applyEdits_rankedE ops _ (applyEdit_tidy c op ht) (applyEdit_rankedE c op ht hc)

end Chart
end Sismic
