import Sismic.Proofs.Lists
import Sismic.Model.Edit
/-!
# Sismic.Proofs.Edit — what each editing operation does

Every operation but `remove_state` either raises and returns the statechart it was given, or
succeeds and returns a statechart that is written down here once (`addedChart`, `renamed`, `moved`,
`rotated`, a new list of transitions): `…_eq` is the operation as its checks followed by that
statechart, `…_cases` what the checks established when it is returned.  Failure atomicity and the effect of each operation are read off these.
`remove_state` is a recursion over `removeLeaf`, whose fields are given by `removeLeaf_fields`.
-/
namespace Sismic

/-! ### the dictionary operations of the editing model -/

section editing
variable {α κ ν : Type} [BEq κ] [LawfulBEq κ]

theorem find?_assocModify_ne (k k' : κ) (f : ν → ν) (hne : k ≠ k') :
    ∀ l : List (κ × ν), (assocModify k f l).find? (fun p => p.1 == k') = l.find? (fun p => p.1 == k')
  | [] => rfl
  | (k0, v) :: r => by
    unfold assocModify
    by_cases h0 : k0 = k
    · have h1 : (k0 == k) = true := by simp [h0]
      have h2 : (k0 == k') = false := by simp [h0, hne]
      simp [h1, h2]
    · have h1 : (k0 == k) = false := by simp [h0]
      simp only [h1, Bool.false_eq_true, if_false, List.find?_cons]
      split
      · rfl
      · exact find?_assocModify_ne k k' f hne r

theorem find?_assocModify_same (k : κ) (f : ν → ν) :
    ∀ l : List (κ × ν), (assocModify k f l).find? (fun p => p.1 == k) =
      (l.find? (fun p => p.1 == k)).map (fun p => (p.1, f p.2))
  | [] => rfl
  | (k0, v) :: r => by
    unfold assocModify
    by_cases h0 : k0 = k
    · have h1 : (k0 == k) = true := by simp [h0]
      simp [h1]
    · have h1 : (k0 == k) = false := by simp [h0]
      simp only [h1, Bool.false_eq_true, if_false, List.find?_cons]
      exact find?_assocModify_same k f r

theorem keys_assocModify (k : κ) (f : ν → ν) : ∀ l : List (κ × ν), (assocModify k f l).map (·.1) = l.map (·.1)
  | [] => rfl
  | (k0, v) :: r => by
    unfold assocModify
    split
    · rfl
    · simp only [List.map_cons]; rw [keys_assocModify k f r]

theorem eraseFirst_eq_eraseP (p : α → Bool) (l : List α) : eraseFirst p l = l.eraseP p := by
  induction l with
  | nil => rfl
  | cons x xs ih => unfold eraseFirst; rw [List.eraseP_cons, ih]; cases p x <;> rfl

theorem mem_eraseFirst (p : α → Bool) (l : List α) (x : α) (h : x ∈ eraseFirst p l) : x ∈ l :=
  List.mem_of_mem_eraseP (eraseFirst_eq_eraseP p l ▸ h)

theorem eraseFirst_eq_filter (key : α → κ) (k : κ) :
    ∀ (l : List α), (l.map key).Nodup → eraseFirst (fun p => key p == k) l = l.filter (fun p => key p != k)
  | [], _ => rfl
  | y :: ys, hn => by
    rw [List.map_cons] at hn
    obtain ⟨hy, hn'⟩ := List.nodup_cons.mp hn
    unfold eraseFirst
    by_cases hyk : key y = k
    · have h1 : (key y == k) = true := by simp [hyk]
      have h2 : (key y != k) = false := by simp [hyk]
      simp only [h1, if_true, List.filter_cons, h2, Bool.false_eq_true, if_false]
      symm
      rw [List.filter_eq_self]
      intro z hz
      have : key z ≠ k := fun e => hy (List.mem_map.mpr ⟨z, hz, e.trans hyk.symm⟩)
      simp [this]
    · have h1 : (key y == k) = false := by simp [hyk]
      have h2 : (key y != k) = true := by simp [hyk]
      simp only [h1, Bool.false_eq_true, if_false, List.filter_cons, h2, if_true]
      rw [eraseFirst_eq_filter key k ys hn']

variable {key : α → κ}

theorem find?_eraseFirst_ne (n x : κ) (hx : x ≠ n) : ∀ (l : List α),
    (eraseFirst (fun p => key p == n) l).find? (fun p => key p == x) = l.find? (fun p => key p == x)
  | [] => rfl
  | y :: r => by
    unfold eraseFirst
    by_cases hk : key y = n
    · rw [if_pos (beq_iff_eq.mpr hk), List.find?_cons, beq_false_of_ne (fun e => hx (e.symm.trans hk))]
    · rw [if_neg (by simpa using hk), List.find?_cons, List.find?_cons, find?_eraseFirst_ne n x hx r]

end editing


theorem hasState_iff_mem (c : Chart) (n : Name) : c.hasState n = true ↔ n ∈ c.states.map (·.name) := by
  simp only [Chart.hasState, Chart.stateFor, List.find?_isSome, List.mem_map, beq_iff_eq]

/-- the statechart a successful `add_state(s, p)` returns -/
def addedChart (c : Chart) (s : StateDef) (p : Option Name) : Chart :=
  { c with states := c.states ++ [s], parent := c.parent ++ [(s.name, p)],
           children := assocModify p (· ++ [s.name]) (c.children ++ [(some s.name, [])]) }

theorem added_hasState (c : Chart) (s : StateDef) (p : Option Name) (n : Name) :
    (addedChart c s p).hasState n = (c.hasState n || n == s.name) := by
  rw [Bool.eq_iff_iff, hasState_iff_mem, Bool.or_eq_true, hasState_iff_mem]
  simp only [addedChart, List.map_append, List.map_cons, List.map_nil, List.mem_append, List.mem_singleton,
    beq_iff_eq]

/-- the name of a state substituted in one `StateDef` (its own name; `initial` of a compound state;
    `memory` of a history state) -/
def StateDef.rename (ρ : Name → Name) (s : StateDef) : StateDef :=
  { s with name := ρ s.name,
           initial := if s.kind == .compound then s.initial.map ρ else s.initial,
           memory := if s.kind.isHistory then s.memory.map ρ else s.memory }

theorem renameIn_ne {a b x : Name} (h : x ≠ a) : Chart.renameIn a b x = x := by
  simp [Chart.renameIn, h]

theorem renameIn_self (a b : Name) : Chart.renameIn a b a = b := by simp [Chart.renameIn]

theorem renameIn_ne_old {a b : Name} (hne : a ≠ b) (x : Name) : Chart.renameIn a b x ≠ a := by
  by_cases hx : x = a
  · rw [hx, renameIn_self]; exact hne.symm
  · rw [renameIn_ne hx]; exact hx

theorem renameIn_inj {a b x y : Name} (hx : x ≠ b) (hy : y ≠ b) (h : Chart.renameIn a b x = Chart.renameIn a b y) :
    x = y := by
  by_cases ex : x = a <;> by_cases ey : y = a
  · rw [ex, ey]
  · rw [ex, renameIn_self, renameIn_ne ey] at h; exact absurd h.symm hy
  · rw [ey, renameIn_self, renameIn_ne ex] at h; exact absurd h hx
  · rwa [renameIn_ne ex, renameIn_ne ey] at h

theorem renameIn_opt (a b : Name) (o : Option Name) :
    o.map (Chart.renameIn a b) = if o == some a then some b else o := by
  cases o with
  | none => simp
  | some x =>
    by_cases h : x = a
    · subst h; simp [Chart.renameIn]
    · simp [Chart.renameIn, h]

namespace Chart

theorem hasState_false_iff (c : Chart) (n : Name) : c.hasState n = false ↔ n ∉ c.states.map (·.name) := by
  rw [← hasState_iff_mem, Bool.not_eq_true]

theorem hasState_iff_stateFor (c : Chart) (n : Name) : c.hasState n = true ↔ ∃ s, c.stateFor n = some s :=
  Option.isSome_iff_exists

/-! ### what the operations do to the `initial` / `memory` of the other states -/

/-- `remove_state(name)` resets the references to `name` -/
def unref (name : Name) (s : StateDef) : StateDef :=
  if s.kind == .compound && s.initial == some name then { s with initial := none }
  else if s.kind.isHistory && s.memory == some name then { s with memory := none }
  else s

theorem unref_name (name : Name) (s : StateDef) : (unref name s).name = s.name := by
  unfold unref; split
  · rfl
  · split <;> rfl

theorem unref_kind (name : Name) (s : StateDef) : (unref name s).kind = s.kind := by
  unfold unref; split
  · rfl
  · split <;> rfl

theorem unref_initial (n : Name) (s : StateDef) (hk : s.kind = .compound) (i : Name)
    (h : (unref n s).initial = some i) : s.initial = some i ∧ i ≠ n := by
  unfold unref at h
  have hk' : (s.kind == Kind.compound) = true := by simp [hk]
  have hh : s.kind.isHistory = false := by rw [hk]; rfl
  by_cases e : s.initial = some n
  · simp [hk', e] at h
  · simp only [hk', Bool.true_and, beq_iff_eq, e, if_false, hh, Bool.false_and, Bool.false_eq_true] at h
    exact ⟨h, fun x => e (by rw [h, x])⟩

theorem unref_memory (n : Name) (s : StateDef) (hk : s.kind.isHistory = true) (m : Name)
    (h : (unref n s).memory = some m) : s.memory = some m ∧ m ≠ n := by
  unfold unref at h
  have hk' : (s.kind == Kind.compound) = false := by
    cases hkk : s.kind <;> simp_all [Kind.isHistory]
  by_cases e : s.memory = some n
  · simp [hk', hk, e] at h
  · simp only [hk', Bool.false_and, Bool.false_eq_true, if_false, hk, Bool.true_and, beq_iff_eq, e] at h
    exact ⟨h, fun x => e (by rw [h, x])⟩

/-- `move_state(name, …)` forgets the memory of `name` if it is a history state (`hist`), and
    resets the references to `name` -/
def mvref (name : Name) (hist : Bool) (s : StateDef) : StateDef :=
  unref name (if s.name == name && hist then { s with memory := none } else s)

theorem mvref_name (name : Name) (hist : Bool) (s : StateDef) : (mvref name hist s).name = s.name := by
  unfold mvref; rw [unref_name]; split <;> rfl

theorem mvref_kind (name : Name) (hist : Bool) (s : StateDef) : (mvref name hist s).kind = s.kind := by
  unfold mvref; rw [unref_kind]; split <;> rfl

/-- `rename_state(old, new)` rewrites the references to `old` -/
def reref (old new : Name) (s : StateDef) : StateDef :=
  let s1 := if s.kind == .compound && s.initial == some old then { s with initial := some new } else s
  if s1.kind.isHistory && s1.memory == some old then { s1 with memory := some new } else s1

theorem reref_eq (a b : Name) (s : StateDef) :
    reref a b s = { StateDef.rename (renameIn a b) s with name := s.name } := by
  unfold reref StateDef.rename
  simp only [renameIn_opt]
  by_cases hk : (s.kind == Kind.compound) = true
  · have hh : s.kind.isHistory = false := by rw [beq_iff_eq.mp hk]; rfl
    by_cases hi : (s.initial == some a) = true <;> simp [hk, hh, hi]
  · by_cases hh : s.kind.isHistory = true <;> by_cases hm : (s.memory == some a) = true <;> simp [hk, hh, hm]

theorem reref_name (old new : Name) (s : StateDef) : (reref old new s).name = s.name := by rw [reref_eq]

theorem reref_kind (old new : Name) (s : StateDef) : (reref old new s).kind = s.kind := by rw [reref_eq]; rfl

theorem map_renameIn_eq_some {a b i : Name} {o : Option Name} (h : o.map (renameIn a b) = some i) :
    (o = some a ∧ i = b) ∨ (o = some i ∧ i ≠ a) := by
  cases o with
  | none => cases h
  | some x =>
    simp only [Option.map_some, Option.some.injEq] at h
    by_cases e : x = a
    · rw [e, renameIn_self] at h; exact .inl ⟨by rw [e], h.symm⟩
    · rw [renameIn_ne e] at h; exact .inr ⟨by rw [h], h ▸ e⟩

theorem reref_initial (a b : Name) (s : StateDef) (hk : s.kind = .compound) (i : Name)
    (h : (reref a b s).initial = some i) : (s.initial = some a ∧ i = b) ∨ (s.initial = some i ∧ i ≠ a) := by
  rw [reref_eq] at h
  exact map_renameIn_eq_some (by simpa [StateDef.rename, hk] using h)

theorem reref_memory (a b : Name) (s : StateDef) (hk : s.kind.isHistory = true) (m : Name)
    (h : (reref a b s).memory = some m) : (s.memory = some a ∧ m = b) ∨ (s.memory = some m ∧ m ≠ a) := by
  rw [reref_eq] at h
  exact map_renameIn_eq_some (by simpa [StateDef.rename, hk] using h)

/-! ### the two ways an operation ends -/

theorem snd_of_error {r : EditRes} {c x : Chart} {P : Prop}
    (h : (∃ e, r = (.error e, c)) ∨ (r = (.ok (), x) ∧ P)) {e : EditErr} (he : r.1 = .error e) : r.2 = c := by
  rcases h with ⟨_, rfl⟩ | ⟨rfl, _⟩
  · rfl
  · cases he

theorem of_ok {r : EditRes} {c x : Chart} {P : Prop}
    (h : (∃ e, r = (.error e, c)) ∨ (r = (.ok (), x) ∧ P)) (hok : r.1 = .ok ()) : r = (.ok (), x) ∧ P := by
  rcases h with ⟨_, rfl⟩ | h
  · cases hok
  · exact h

theorem only_transitions {r : EditRes} {c : Chart} {ts : List Trans} {P : Prop}
    (h : (∃ e, r = (.error e, c)) ∨ (r = (.ok (), { c with transitions := ts }) ∧ P)) :
    ∃ ts', r.2 = { c with transitions := ts' } := by
  rcases h with ⟨_, rfl⟩ | ⟨rfl, _⟩
  · exact ⟨c.transitions, rfl⟩
  · exact ⟨ts, rfl⟩

/-! ### `add_state` -/

theorem addState_eq (c : Chart) (s : StateDef) (par : Option Name) : c.addState s par =
    if c.hasState s.name then (.error .statechart, c) else
    match par with
    | none =>
      if c.root.isSome then (.error .statechart, c)
      else if s.kind.isHistory then (.error .statechart, c)
      else (.ok (), addedChart c s none)
    | some p =>
      match c.stateFor p with
      | none => (.error .statechart, c)
      | some ps =>
        if !ps.kind.isComposite then (.error .statechart, c)
        else if s.kind.isHistory && ps.kind != .compound then (.error .statechart, c)
        else (.ok (), addedChart c s (some p)) := rfl

theorem addState_cases (c : Chart) (s : StateDef) (par : Option Name) :
    (∃ e, c.addState s par = (.error e, c)) ∨
    (c.addState s par = (.ok (), addedChart c s par) ∧
      (c.hasState s.name = false ∧
      (par = none → c.root = none ∧ s.kind.isHistory = false) ∧
      (∀ p, par = some p → ∃ ps, c.stateFor p = some ps ∧ ps.kind.isComposite = true ∧
         (s.kind.isHistory = true → ps.kind = .compound)))) := by
  rw [addState_eq]
  by_cases hfresh : c.hasState s.name = true
  · rw [if_pos hfresh]; exact .inl ⟨_, rfl⟩
  rw [if_neg hfresh]
  have hf := (Bool.not_eq_true _).mp hfresh
  cases par with
  | none =>
    dsimp only
    by_cases hr : c.root.isSome = true
    · rw [if_pos hr]; exact .inl ⟨_, rfl⟩
    rw [if_neg hr]
    by_cases hh : s.kind.isHistory = true
    · rw [if_pos hh]; exact .inl ⟨_, rfl⟩
    rw [if_neg hh]
    exact .inr ⟨rfl, hf, fun _ => ⟨Option.not_isSome_iff_eq_none.mp hr, (Bool.not_eq_true _).mp hh⟩, fun p hp => nomatch hp⟩
  | some p =>
    dsimp only
    cases hps : c.stateFor p with
    | none => exact .inl ⟨_, rfl⟩
    | some ps =>
      dsimp only
      by_cases hcomp : (!ps.kind.isComposite) = true
      · rw [if_pos hcomp]; exact .inl ⟨_, rfl⟩
      rw [if_neg hcomp]
      by_cases hh : (s.kind.isHistory && ps.kind != .compound) = true
      · rw [if_pos hh]; exact .inl ⟨_, rfl⟩
      rw [if_neg hh]
      refine .inr ⟨rfl, hf, (fun h => nomatch h), fun p' hp' => ?_⟩
      cases hp'
      exact ⟨ps, hps, by simpa using hcomp, fun hk => by simpa [hk] using hh⟩

theorem addState_atomic (c : Chart) (s : StateDef) (p : Option Name) (e : EditErr)
    (h : (c.addState s p).1 = .error e) : (c.addState s p).2 = c := snd_of_error (addState_cases c s p) h

theorem addState_effect (c : Chart) (s : StateDef) (par : Option Name) (h : (c.addState s par).1 = .ok ()) :
    c.hasState s.name = false ∧
    (c.addState s par).2.states = c.states ++ [s] ∧
    (c.addState s par).2.parent = c.parent ++ [(s.name, par)] ∧
    (c.addState s par).2.children = assocModify par (· ++ [s.name]) (c.children ++ [(some s.name, [])]) ∧
    (c.addState s par).2.transitions = c.transitions ∧
    (par = none → c.root = none ∧ s.kind.isHistory = false) ∧
    (∀ p, par = some p → ∃ ps, c.stateFor p = some ps ∧ ps.kind.isComposite = true ∧
         (s.kind.isHistory = true → ps.kind = .compound)) := by
  obtain ⟨he, hfresh, hroot, hpar⟩ := of_ok (addState_cases c s par) h
  rw [he]
  exact ⟨hfresh, rfl, rfl, rfl, rfl, hroot, hpar⟩

theorem addState_ok (c : Chart) (s : StateDef) (p : Option Name) (h : (c.addState s p).1 = .ok ()) :
    (c.addState s p).2 = addedChart c s p ∧ c.hasState s.name = false ∧ (p = none → c.root = none) ∧
      ∀ q, p = some q → c.hasState q = true := by
  obtain ⟨he, hfresh, hroot, hpar⟩ := of_ok (addState_cases c s p) h
  rw [he]
  refine ⟨rfl, hfresh, fun e => (hroot e).1, fun q e => ?_⟩
  obtain ⟨ps, hps, _⟩ := hpar q e
  exact (hasState_iff_stateFor c q).mpr ⟨ps, hps⟩

/-! ### the transition operations -/

theorem addTransition_cases (c : Chart) (t : Trans) :
    (∃ e, c.addTransition t = (.error e, c)) ∨
    (c.addTransition t = (.ok (), { c with transitions := c.transitions ++ [t] }) ∧
      ((∃ s, c.stateFor t.source = some s ∧ s.kind.ownsTransitions = true) ∧
       (∀ tg, t.target = some tg → c.hasState tg = true))) := by
  unfold addTransition
  split
  · exact .inl ⟨_, rfl⟩
  · next s hs =>
    split
    · exact .inl ⟨_, rfl⟩
    · next ho =>
      have ho' : s.kind.ownsTransitions = true := by simpa using ho
      split
      · next tg htg =>
        split
        · exact .inl ⟨_, rfl⟩
        · next hh => exact .inr ⟨rfl, ⟨s, hs, ho'⟩, fun tg' e => by rw [htg] at e; cases e; simpa using hh⟩
      · next htg => exact .inr ⟨rfl, ⟨s, hs, ho'⟩, fun tg' e => by rw [htg] at e; cases e⟩

theorem addTransition_atomic (c : Chart) (t : Trans) (e : EditErr)
    (h : (c.addTransition t).1 = .error e) : (c.addTransition t).2 = c := snd_of_error (addTransition_cases c t) h

theorem addTransition_effect (c : Chart) (t : Trans) (h : (c.addTransition t).1 = .ok ()) :
    (c.addTransition t).2 = { c with transitions := c.transitions ++ [t] } ∧
    (∃ s, c.stateFor t.source = some s ∧ s.kind.ownsTransitions = true) ∧
    (∀ tg, t.target = some tg → c.hasState tg = true) := by
  obtain ⟨he, hp⟩ := of_ok (addTransition_cases c t) h
  rw [he]; exact ⟨rfl, hp⟩

theorem removeTransition_cases (c : Chart) (t : Trans) :
    (∃ e, c.removeTransition t = (.error e, c)) ∨
    (c.removeTransition t = (.ok (), { c with transitions := eraseFirst (·.valEq t) c.transitions }) ∧ True) := by
  unfold removeTransition
  split
  · exact .inr ⟨rfl, trivial⟩
  · exact .inl ⟨_, rfl⟩

theorem removeTransition_atomic (c : Chart) (t : Trans) (e : EditErr)
    (h : (c.removeTransition t).1 = .error e) : (c.removeTransition t).2 = c :=
  snd_of_error (removeTransition_cases c t) h

theorem removeTransition_effect (c : Chart) (t : Trans) (h : (c.removeTransition t).1 = .ok ()) :
    (c.removeTransition t).2 = { c with transitions := eraseFirst (·.valEq t) c.transitions } := by
  rw [(of_ok (removeTransition_cases c t) h).1]

/-- the statechart a successful `rotate_transition` of the `i`-th transition returns -/
def rotated (c : Chart) (i : Option Nat) (src : Option Name) (tgt : Option (Option Name)) : Chart :=
  { c with transitions := c.transitions.mapIdx (fun j t => if j == i.getD 0 then rotApply src tgt t else t) }

theorem rotateTransition_eq (c : Chart) (i : Option Nat) (src : Option Name) (tgt : Option (Option Name)) :
    c.rotateTransition i src tgt =
      if src.isNone && tgt.isNone then (.error .value, c) else
      match i.bind (fun i => c.transitions[i]?) with
      | none => (.error .statechart, c)
      | some _ =>
        if rotSrcErr c src then (.error .statechart, c) else
        if rotTgtErr c tgt then (.error .statechart, c) else (.ok (), c.rotated i src tgt) := rfl

/-- a successful `rotate_transition` found both new ends acceptable before it assigned either -/
theorem rotateTransition_cases (c : Chart) (i : Option Nat) (src : Option Name) (tgt : Option (Option Name)) :
    (∃ e, c.rotateTransition i src tgt = (.error e, c)) ∨
    (c.rotateTransition i src tgt = (.ok (), c.rotated i src tgt) ∧
      (rotSrcErr c src = false ∧ rotTgtErr c tgt = false)) := by
  rw [rotateTransition_eq]
  by_cases h0 : (src.isNone && tgt.isNone) = true
  · rw [if_pos h0]; exact .inl ⟨_, rfl⟩
  rw [if_neg h0]
  cases i.bind (fun i => c.transitions[i]?) with
  | none => exact .inl ⟨_, rfl⟩
  | some _ =>
    dsimp only
    by_cases h1 : rotSrcErr c src = true
    · rw [if_pos h1]; exact .inl ⟨_, rfl⟩
    rw [if_neg h1]
    by_cases h2 : rotTgtErr c tgt = true
    · rw [if_pos h2]; exact .inl ⟨_, rfl⟩
    rw [if_neg h2]
    exact .inr ⟨rfl, (Bool.not_eq_true _).mp h1, (Bool.not_eq_true _).mp h2⟩

theorem rotateTransition_atomic (c : Chart) (i : Option Nat) (src : Option Name) (tgt : Option (Option Name))
    (e : EditErr) (h : (c.rotateTransition i src tgt).1 = .error e) : (c.rotateTransition i src tgt).2 = c :=
  snd_of_error (rotateTransition_cases c i src tgt) h

/-! ### `rename_state` -/

/-- `rename_state(old, new)` first rewrites the parents that were `old` -/
def reparented (c : Chart) (old new : Name) : Chart :=
  { c with parent := c.parent.map (fun p => (p.1, if p.2 == some old then some new else p.2)) }

/-- … then, with the parent it finds for `old`, puts `new` in the place of `old` in that parent's children list -/
def relisted (c : Chart) (old new : Name) : Chart :=
  { c with children := assocModify ((c.reparented old new).parentFor old) (fun l => l.erase old ++ [new]) c.children }

/-- the statechart a successful `rename_state(old, new)` returns (`old ≠ new`): the entries of `old`
    are dropped, those of `new` take what was looked up for `old` half-way -/
def renamed (c : Chart) (old new : Name) : Chart :=
  { c with
    states := (c.states.map (reref old new)).filter (fun s => s.name != old) ++
      (((c.states.map (reref old new)).find? (fun s => s.name == old)).map (fun s => { s with name := new })).toList
    parent := assocErase old (c.reparented old new).parent ++ [(new, (c.reparented old new).parentFor old)]
    children := assocErase (some old) (c.relisted old new).children ++
      [(some new, (c.relisted old new).childrenFor old)]
    transitions := c.transitions.map (fun t =>
      { t with source := renameIn old new t.source, target := t.target.map (renameIn old new) }) }

theorem rename_same_is_noop (c : Chart) (a : Name) : c.renameState a a = (.ok (), c) := by
  simp [renameState]

theorem renameState_eq (c : Chart) (a b : Name) : c.renameState a b =
    if a == b then (.ok (), c) else if c.hasState b then (.error .statechart, c)
    else if !c.hasState a then (.error .statechart, c) else (.ok (), c.renamed a b) := rfl

theorem renameState_cases (c : Chart) (a b : Name) (hne : a ≠ b) :
    (∃ e, c.renameState a b = (.error e, c)) ∨
    (c.renameState a b = (.ok (), c.renamed a b) ∧ (c.hasState b = false ∧ c.hasState a = true)) := by
  rw [renameState_eq, if_neg (by simpa using hne)]
  split
  · exact .inl ⟨_, rfl⟩
  · split
    · exact .inl ⟨_, rfl⟩
    · next h1 h2 => exact .inr ⟨rfl, by simpa using h1, by simpa using h2⟩

theorem renameState_atomic (c : Chart) (a b : Name) (e : EditErr)
    (h : (c.renameState a b).1 = .error e) : (c.renameState a b).2 = c := by
  by_cases hne : a = b
  · subst hne; rw [rename_same_is_noop] at h; cases h
  · exact snd_of_error (renameState_cases c a b hne) h

theorem renameState_ok (c : Chart) (a b : Name) (h : (c.renameState a b).1 = .ok ()) (hne : a ≠ b) :
    (c.renameState a b).2 = c.renamed a b ∧ c.hasState b = false ∧ c.hasState a = true := by
  obtain ⟨he, hp⟩ := of_ok (renameState_cases c a b hne) h
  rw [he]; exact ⟨rfl, hp⟩

theorem renameState_transitions (c : Chart) (a b : Name) (h : (c.renameState a b).1 = .ok ()) (hne : a ≠ b) :
    (c.renameState a b).2.transitions =
      c.transitions.map (fun t => { t with source := renameIn a b t.source, target := t.target.map (renameIn a b) }) := by
  rw [(renameState_ok c a b h hne).1]; rfl

theorem renameState_keeps_internal (c : Chart) (a b : Name) (h : (c.renameState a b).1 = .ok ()) (hne : a ≠ b) :
    ((c.renameState a b).2.transitions.map (fun t => t.target.isNone)) = c.transitions.map (fun t => t.target.isNone) := by
  rw [renameState_transitions c a b h hne, List.map_map]
  congr 1
  funext t
  simp only [Function.comp]
  cases t.target <;> rfl

/-! ### `move_state` -/

/-- the statechart a successful `move_state(a, b)` returns -/
def moved (c : Chart) (a : Name) (hist : Bool) (b : Name) : Chart :=
  { c with
    states := c.states.map (mvref a hist)
    parent := moveState.assocSetP a (some b) c.parent
    children := assocModify (some b) (· ++ [a]) (assocModify (c.parentFor a) (fun l => l.erase a) c.children) }

theorem moveState_eq (c : Chart) (a b : Name) : c.moveState a b =
    match c.stateFor a with
    | none => (.error .statechart, c)
    | some st =>
      if !c.hasState b then (.error .statechart, c)
      else if (a :: c.descendants a).contains b then (.error .statechart, c)
      else (.ok (), c.moved a st.kind.isHistory b) := rfl

theorem moveState_cases (c : Chart) (a b : Name) :
    (∃ e, c.moveState a b = (.error e, c)) ∨
    (c.moveState a b = (.ok (), c.moved a ((c.stateFor a).any (·.kind.isHistory)) b) ∧
      (c.hasState a = true ∧ c.hasState b = true ∧ (a :: c.descendants a).contains b = false)) := by
  rw [moveState_eq]
  cases hst : c.stateFor a with
  | none => exact .inl ⟨_, rfl⟩
  | some st =>
    dsimp only
    by_cases hb : (!c.hasState b) = true
    · rw [if_pos hb]; exact .inl ⟨_, rfl⟩
    rw [if_neg hb]
    by_cases hd : (a :: c.descendants a).contains b = true
    · rw [if_pos hd]; exact .inl ⟨_, rfl⟩
    rw [if_neg hd]
    exact .inr ⟨rfl, (hasState_iff_stateFor c a).mpr ⟨st, hst⟩, by simpa using hb, (Bool.not_eq_true _).mp hd⟩

theorem moveState_atomic (c : Chart) (a b : Name) (e : EditErr)
    (h : (c.moveState a b).1 = .error e) : (c.moveState a b).2 = c := snd_of_error (moveState_cases c a b) h

theorem moveState_ok (c : Chart) (a b : Name) (h : (c.moveState a b).1 = .ok ()) :
    (c.moveState a b).2 = c.moved a ((c.stateFor a).any (·.kind.isHistory)) b ∧ c.hasState a = true ∧ c.hasState b = true ∧
      (a :: c.descendants a).contains b = false := by
  obtain ⟨he, hp⟩ := of_ok (moveState_cases c a b) h
  rw [he]; exact ⟨rfl, hp⟩

theorem moveState_effect (c : Chart) (a b : Name) (h : (c.moveState a b).1 = .ok ()) :
    (c.moveState a b).2.transitions = c.transitions ∧
    (c.moveState a b).2.states.map (·.name) = c.states.map (·.name) ∧
    (c.moveState a b).2.states.map (·.kind) = c.states.map (·.kind) := by
  rw [(moveState_ok c a b h).1]
  refine ⟨rfl, ?_, ?_⟩
  · show (c.states.map (mvref a _)).map (·.name) = _
    rw [List.map_map]; congr 1; funext s; exact mvref_name a _ s
  · show (c.states.map (mvref a _)).map (·.kind) = _
    rw [List.map_map]; congr 1; funext s; exact mvref_kind a _ s

/-! ### `remove_state` -/

theorem removeLeaf_fields (c : Chart) (n : Name) :
    (c.removeLeaf n).states = (c.states.map (unref n)).filter (fun s => s.name != n) ∧
    (c.removeLeaf n).parent = assocErase n c.parent ∧
    (c.removeLeaf n).children = assocModify (c.parentFor n) (fun l => l.erase n) (assocErase (some n) c.children) ∧
    (c.removeLeaf n).transitions = c.transitions.filter (fun t => !(t.source == n || t.target == some n)) :=
  ⟨rfl, rfl, rfl, rfl⟩

/-- what `remove_state` leaves — also when it raises half-way — satisfies whatever `removeLeaf` keeps -/
theorem removeStateF_preserves {P : Chart → Prop} (leaf : ∀ c n, P c → P (c.removeLeaf n)) :
    ∀ (f : Nat) (c : Chart) (n : Name), P c → P (removeStateF f c n).2
  | 0, c, n, hc => by unfold removeStateF; exact hc
  | f+1, c, n, hc => by
    have hgo : ∀ (l : List Name) (c0 : Chart), P c0 → P (removeStateF.go f c0 l).2 := by
      intro l
      induction l with
      | nil => intro c0 h0; unfold removeStateF.go; exact h0
      | cons ch rest ih =>
        intro c0 h0
        have h1 := removeStateF_preserves leaf f c0 ch h0
        unfold removeStateF.go
        split
        · next hx => rw [hx] at h1; exact ih _ h1
        · next hx => rw [hx] at h1; exact h1
    have h1 := hgo (c.childrenFor n) c hc
    unfold removeStateF
    split
    · exact hc
    · split
      · next hx => rw [hx] at h1; exact leaf _ n h1
      · exact h1

/-! ### transitions stay anchored -/

/-- every transition starts from a state that may own transitions and refers to existing states -/
def TransOK (c : Chart) : Prop :=
  ∀ t ∈ c.transitions, (∃ s, c.stateFor t.source = some s ∧ s.kind.ownsTransitions = true) ∧
    ∀ tg, t.target = some tg → c.hasState tg = true

theorem addTransition_transOK (c : Chart) (t : Trans) (hc : c.TransOK) (h : (c.addTransition t).1 = .ok ()) :
    (c.addTransition t).2.TransOK := by
  obtain ⟨he, hs, ht⟩ := addTransition_effect c t h
  rw [he]
  intro u hu
  simp only [List.mem_append, List.mem_singleton] at hu
  rcases hu with hu | rfl
  · exact hc u hu
  · exact ⟨hs, ht⟩

theorem removeTransition_transOK (c : Chart) (t : Trans) (hc : c.TransOK) (h : (c.removeTransition t).1 = .ok ()) :
    (c.removeTransition t).2.TransOK := by
  rw [removeTransition_effect c t h]
  intro u hu
  exact hc u (mem_eraseFirst _ _ _ hu)

theorem stateFor_added (c : Chart) (s : StateDef) (p : Option Name) {n : Name} {x : StateDef}
    (h : c.stateFor n = some x) : (addedChart c s p).stateFor n = some x := by
  show (c.states ++ [s]).find? _ = _
  rw [List.find?_append, show c.states.find? _ = some x from h]; rfl

theorem addState_transOK (c : Chart) (s : StateDef) (p : Option Name) (hc : c.TransOK)
    (h : (c.addState s p).1 = .ok ()) : (c.addState s p).2.TransOK := by
  rw [(addState_ok c s p h).1]
  intro t ht
  obtain ⟨⟨x, hx, hown⟩, htg⟩ := hc t ht
  refine ⟨⟨x, stateFor_added c s p hx, hown⟩, fun tg e => ?_⟩
  obtain ⟨y, hy⟩ := (hasState_iff_stateFor c tg).mp (htg tg e)
  exact (hasState_iff_stateFor _ tg).mpr ⟨y, stateFor_added c s p hy⟩

end Chart
end Sismic
