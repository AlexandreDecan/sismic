import Sismic.Proofs.Sort
/-!
# Sismic.Proofs.GroupBy — `sorted_groupby`: the labels are the distinct keys, strictly sorted
-/
namespace Sismic

variable {α κ : Type} [DecidableEq κ]

theorem mem_insKey (le : κ → κ → Bool) (k x : κ) (ks : List κ) :
    x ∈ insKey le k ks ↔ x = k ∨ x ∈ ks := by
  induction ks with
  | nil => simp [insKey]
  | cons k' ks ih =>
    unfold insKey
    split
    · next h => subst h; simp
    · split
      · simp
      · simp [ih]; grind

theorem mem_keysSorted_aux (le : κ → κ → Bool) (key : α → κ) (xs : List α) (acc : List κ) (k : κ) :
    k ∈ xs.foldl (fun acc x => insKey le (key x) acc) acc ↔ k ∈ acc ∨ ∃ x ∈ xs, key x = k := by
  induction xs generalizing acc with
  | nil => simp
  | cons x xs ih =>
    simp only [List.foldl_cons, ih, mem_insKey, List.mem_cons]
    constructor
    · rintro ((h | h) | ⟨y, hy, h⟩)
      · right; exact ⟨x, Or.inl rfl, h.symm⟩
      · left; exact h
      · right; exact ⟨y, Or.inr hy, h⟩
    · rintro (h | ⟨y, (rfl | hy), h⟩)
      · left; right; exact h
      · left; left; exact h.symm
      · right; exact ⟨y, hy, h⟩

theorem mem_keysSorted (le : κ → κ → Bool) (key : α → κ) (xs : List α) (k : κ) :
    k ∈ keysSorted le key xs ↔ ∃ x ∈ xs, key x = k := by
  simp [keysSorted, mem_keysSorted_aux]

theorem key_mem_keysSorted (le : κ → κ → Bool) (key : α → κ) (xs : List α) {x : α} (hx : x ∈ xs) :
    key x ∈ keysSorted le key xs :=
  (mem_keysSorted _ _ _ _).mpr ⟨x, hx, rfl⟩

def StrictSorted (le : κ → κ → Bool) (l : List κ) : Prop :=
  l.Pairwise (fun a b => le a b = true ∧ a ≠ b)

theorem insKey_sorted (le : κ → κ → Bool) (hle : TotalLE le) (k : κ) (ks : List κ)
    (h : StrictSorted le ks) : StrictSorted le (insKey le k ks) := by
  induction ks with
  | nil => simp [insKey, StrictSorted]
  | cons k' ks ih =>
    unfold insKey
    split
    · exact h
    · next hne =>
      split
      · next hle' =>
        unfold StrictSorted at *
        rw [List.pairwise_cons] at h ⊢
        refine ⟨?_, List.pairwise_cons.mpr h⟩
        intro b hb
        rcases List.mem_cons.mp hb with rfl | hb
        · exact ⟨hle', hne⟩
        · have := h.1 b hb
          refine ⟨hle.trans _ _ _ hle' this.1, ?_⟩
          rintro rfl
          exact hne (hle.antisymm _ _ hle' this.1)
      · next hnle =>
        unfold StrictSorted at *
        rw [List.pairwise_cons] at h ⊢
        refine ⟨?_, ih h.2⟩
        intro b hb
        rw [mem_insKey] at hb
        rcases hb with rfl | hb
        · have := hle.total b k'
          simp [hnle] at this
          exact ⟨this, fun e => hne e.symm⟩
        · exact h.1 b hb

theorem keysSorted_sorted (le : κ → κ → Bool) (hle : TotalLE le) (key : α → κ) (xs : List α) :
    StrictSorted le (keysSorted le key xs) := by
  exact foldl_inv (fun acc x h => insKey_sorted le hle (key x) acc h) xs [] List.Pairwise.nil

theorem strictSorted_nodup (le : κ → κ → Bool) (l : List κ) (h : StrictSorted le l) : l.Nodup :=
  h.imp (fun hab => hab.2)

theorem strictSorted_unique (le : κ → κ → Bool) (hle : TotalLE le) (l l' : List κ)
    (h : StrictSorted le l) (h' : StrictSorted le l') (hm : ∀ x, x ∈ l ↔ x ∈ l') : l = l' := by
  apply List.Perm.eq_of_pairwise (le := fun a b => le a b = true ∧ a ≠ b)
  · intro a b _ _ hab hba; exact hle.antisymm a b hab.1 hba.1
  · exact h
  · exact h'
  · exact (List.perm_ext_iff_of_nodup (strictSorted_nodup le l h) (strictSorted_nodup le l' h')).mpr hm

theorem keysSorted_perm (le : κ → κ → Bool) (hle : TotalLE le) (key : α → κ) (xs xs' : List α)
    (hp : xs'.Perm xs) : keysSorted le key xs' = keysSorted le key xs := by
  apply strictSorted_unique le hle _ _ (keysSorted_sorted le hle key xs') (keysSorted_sorted le hle key xs)
  intro k
  rw [mem_keysSorted, mem_keysSorted]
  constructor
  · rintro ⟨x, hx, hk⟩; exact ⟨x, hp.mem_iff.mp hx, hk⟩
  · rintro ⟨x, hx, hk⟩; exact ⟨x, hp.mem_iff.mpr hx, hk⟩

end Sismic
