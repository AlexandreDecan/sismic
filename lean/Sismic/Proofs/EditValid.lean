import Sismic.Proofs.EditTree
import Sismic.Proofs.EditRefs
/-!
# Sismic.Proofs.EditValid — `validate()` still passes after `remove_state`, `move_state`, `rename_state`

On a statechart whose dictionaries are consistent (`Tidy`), `validate()` says: the `initial` of a
compound state is one of its children, the `memory` of a history state is another child of its
parent (`SoundRefs`, in terms of parent pointers: `validate_iff`).  The three operations that
restructure states keep that true — they reset or rewrite exactly the references they invalidate.
-/
namespace Sismic
namespace Chart

/-- what `validate()` checks, in terms of parent pointers -/
def SoundRefs (c : Chart) : Prop :=
  ∀ s ∈ c.states,
    (s.kind = .compound → ∀ i, s.initial = some i → c.parentFor i = some s.name) ∧
    (s.kind.isHistory = true → ∀ m, s.memory = some m →
      m ≠ s.name ∧ ∃ p, c.parentFor s.name = some p ∧ c.parentFor m = some p)

theorem validate_iff (c : Chart) (ht : Tidy c) : c.validate = true ↔ c.SoundRefs := by
  unfold validate SoundRefs
  simp only [Bool.and_eq_true, List.all_eq_true]
  constructor
  · rintro ⟨h1, h2⟩ s hs
    constructor
    · intro hk i hi
      have := h1 s hs
      simp only [hk, beq_self_eq_true, if_true, hi, Bool.and_eq_true, List.contains_iff_mem] at this
      exact (ht.childParent s.name i).1 this.2
    · intro hk m hm
      have := h2 s hs
      simp only [hk, if_true, hm, Bool.and_eq_true, bne_iff_ne, ne_eq] at this
      obtain ⟨⟨hne, _⟩, hp⟩ := this
      refine ⟨hne, ?_⟩
      cases hpf : c.parentFor s.name with
      | none => simp [hpf] at hp
      | some p =>
        simp only [hpf, List.contains_iff_mem] at hp
        exact ⟨p, rfl, (ht.childParent p m).1 hp⟩
  · intro h
    constructor
    · intro s hs
      split
      · next hk =>
        have hk' : s.kind = .compound := by simpa using hk
        cases hi : s.initial with
        | none => rfl
        | some i =>
          have hp := (h s hs).1 hk' i hi
          simp only [Bool.and_eq_true, List.contains_iff_mem]
          exact ⟨ht.parentKeysStates i (key_of_parentFor c i _ hp), (ht.childParent s.name i).2 hp⟩
      · rfl
    · intro s hs
      split
      · next hk =>
        cases hm : s.memory with
        | none => rfl
        | some m =>
          obtain ⟨hne, p, hp1, hp2⟩ := (h s hs).2 hk m hm
          simp only [Bool.and_eq_true, bne_iff_ne, ne_eq, hp1, List.contains_iff_mem]
          exact ⟨⟨hne, ht.parentKeysStates m (key_of_parentFor c m _ hp2)⟩, (ht.childParent p m).2 hp2⟩
      · rfl

/-! ### `remove_state` -/

theorem removeLeaf_parentFor (c : Chart) (n x : Name) (hx : x ≠ n) : (c.removeLeaf n).parentFor x = c.parentFor x := by
  unfold parentFor
  rw [(removeLeaf_fields c n).2.1]
  unfold assocErase
  rw [find?_eraseFirst_ne n x hx]

theorem removeLeaf_soundRefs (c : Chart) (n : Name) (hc : c.SoundRefs) : (c.removeLeaf n).SoundRefs := by
  intro s' hs'
  rw [(removeLeaf_fields c n).1, List.mem_filter, List.mem_map] at hs'
  obtain ⟨⟨s, hs, rfl⟩, hname⟩ := hs'
  have hsn : s.name ≠ n := by simpa [unref_name] using hname
  obtain ⟨h1, h2⟩ := hc s hs
  rw [unref_kind, unref_name]
  constructor
  · intro hk i hi
    obtain ⟨e1, e2⟩ := unref_initial n s hk i hi
    rw [removeLeaf_parentFor c n i e2]
    exact h1 hk i e1
  · intro hk m hm
    obtain ⟨e1, e2⟩ := unref_memory n s hk m hm
    obtain ⟨hne, p, hp1, hp2⟩ := h2 hk m e1
    exact ⟨hne, p, by rw [removeLeaf_parentFor c n _ hsn]; exact hp1, by rw [removeLeaf_parentFor c n m e2]; exact hp2⟩

theorem removeStateF_soundRefs (f : Nat) (c : Chart) (n : Name) (hc : c.SoundRefs) : (removeStateF f c n).2.SoundRefs :=
  removeStateF_preserves removeLeaf_soundRefs f c n hc

theorem removeState_validate (c : Chart) (n : Name) (ht : Tidy c) (hv : c.validate = true) :
    (c.removeState n).2.validate = true :=
  (validate_iff _ (removeState_tidy c n ht)).2 (removeStateF_soundRefs _ c n ((validate_iff c ht).1 hv))

/-! ### `move_state` -/

theorem stateFor_of_mem (c : Chart) (hn : (c.states.map (·.name)).Nodup) (s : StateDef) (hs : s ∈ c.states) :
    c.stateFor s.name = some s := find?_of_mem_key (fun (x : StateDef) => x.name) hn hs

theorem moveState_soundRefs (c : Chart) (a b : Name) (hn : (c.states.map (·.name)).Nodup) (hc : c.SoundRefs) (h : (c.moveState a b).1 = .ok ()) :
    (c.moveState a b).2.SoundRefs := by
  obtain ⟨st, hst, hs⟩ := moveState_states c a b h
  intro s' hs'
  rw [hs, List.mem_map] at hs'
  obtain ⟨s, hsm, rfl⟩ := hs'
  obtain ⟨h1, h2⟩ := hc s hsm
  rw [mvref_kind, mvref_name]
  simp only [moveState_parentFor c a b h]
  constructor
  · intro hk i hi
    obtain ⟨hi0, hia⟩ := mvref_initial a st.kind.isHistory s hk i hi
    simp only [hia, if_false]
    exact h1 hk i hi0
  · intro hk m hm
    obtain ⟨e1, e2, e3⟩ := mvref_memory a st.kind.isHistory s hk m hm
    have hsa : s.name ≠ a := by
      intro e
      apply e3
      refine ⟨e, ?_⟩
      have := stateFor_of_mem c hn s hsm
      rw [e, hst] at this
      cases this
      exact hk
    obtain ⟨hne, p, hp1, hp2⟩ := h2 hk m e1
    simp only [hsa, e2, if_false]
    exact ⟨hne, p, hp1, hp2⟩

theorem moveState_validate (c : Chart) (a b : Name) (ht : Tidy c) (hv : c.validate = true)
    (h : (c.moveState a b).1 = .ok ()) : (c.moveState a b).2.validate = true :=
  (validate_iff _ (moveState_tidy c a b ht h)).2 (moveState_soundRefs c a b ht.names ((validate_iff c ht).1 hv) h)

/-! ### `rename_state` -/

theorem renameState_soundRefs (c : Chart) (a b : Name) (ht : Tidy c) (hc : c.SoundRefs)
    (h : (c.renameState a b).1 = .ok ()) (hne : a ≠ b) : (c.renameState a b).2.SoundRefs := by
  obtain ⟨hb, ha, hs⟩ := renameState_states c a b h hne
  have hpf := rename_parentFor c a b ht h hne
  -- whoever has a parent is a state, hence is not `b`
  have notb : ∀ x q, c.parentFor x = some q → x ≠ b := fun x q hx e =>
    (ht.fresh hb).2.1 (e ▸ key_of_parentFor c x q hx)
  have memb : ∀ s ∈ c.states, s.name ≠ b := fun s hsm e =>
    (ht.fresh hb).1 (e ▸ List.mem_map.2 ⟨s, hsm, rfl⟩)
  -- the parent pointers of the states that keep their name
  have pkeep : ∀ x q, c.parentFor x = some q → x ≠ a →
      (c.renameState a b).2.parentFor x = some (if q = a then b else q) := by
    intro x q hx hxa
    rw [hpf x]
    simp only [hxa, if_false, notb x q hx, hx, Option.some.injEq]
    by_cases e : q = a <;> simp [e]
  have pb : (c.renameState a b).2.parentFor b = c.parentFor a := by
    rw [hpf b]
    simp [Ne.symm hne]
  intro s' hs'
  obtain ⟨s, hsm, hk, hi, hm, hnm⟩ := mem_renameState_states c a b h hne s' hs'
  obtain ⟨h1, h2⟩ := hc s hsm
  rw [hk, hi, hm, hnm]
  constructor
  · intro hkc i hii
    rcases reref_initial a b s hkc i hii with ⟨e0, e⟩ | ⟨e1, e2⟩
    · -- the initial state is the renamed one
      have hpa := h1 hkc a e0
      have hsa : s.name ≠ a := fun x => ht.noSelf a (by rw [hpa, x])
      rw [e, pb, hpa]
      simp [hsa]
    · have hp := h1 hkc i e1
      rw [pkeep i s.name hp e2]
  · intro hkh m hmm
    rcases reref_memory a b s hkh m hmm with ⟨e0, e⟩ | ⟨e1, e2⟩
    · -- the memory is the renamed state: a sibling of `s`, so `s` keeps its name
      obtain ⟨hna, p, hp1, hp2⟩ := h2 hkh a e0
      have hsa : s.name ≠ a := Ne.symm hna
      have hpa : p ≠ a := fun x => ht.noSelf a (by rw [hp2, x])
      simp only [hsa, if_false]
      refine ⟨by rw [e]; exact Ne.symm (memb s hsm), p, ?_, ?_⟩
      · rw [pkeep s.name p hp1 hsa]; simp [hpa]
      · rw [e, pb]; exact hp2
    · obtain ⟨hna, p, hp1, hp2⟩ := h2 hkh m e1
      have hmb : m ≠ b := notb m p hp2
      by_cases hsa : s.name = a
      · -- `s` is the renamed state: its parent is not itself
        have hpa : p ≠ a := fun x => ht.noSelf a (by rw [← hsa, hp1, x, hsa])
        simp only [hsa, if_true]
        refine ⟨hmb, p, ?_, ?_⟩
        · rw [pb, ← hsa]; exact hp1
        · rw [pkeep m p hp2 e2]; simp [hpa]
      · simp only [hsa, if_false]
        exact ⟨hna, _, pkeep s.name p hp1 hsa, pkeep m p hp2 e2⟩

theorem renameState_validate (c : Chart) (a b : Name) (ht : Tidy c) (hv : c.validate = true)
    (h : (c.renameState a b).1 = .ok ()) : (c.renameState a b).2.validate = true := by
  by_cases hne : a = b
  · subst hne; rw [rename_same_is_noop]; exact hv
  · exact (validate_iff _ (renameState_tidy c a b ht h)).2
      (renameState_soundRefs c a b ht ((validate_iff c ht).1 hv) h hne)

/-- a state handed to `add_state` without `initial` / `memory` (they are set once the children exist) -/
def _root_.Sismic.StateDef.Bare (s : StateDef) : Prop :=
  (s.kind = .compound → s.initial = none) ∧ (s.kind.isHistory = true → s.memory = none)

/-- the states `add_state` is given in this session are bare -/
def EditOp.Bare : EditOp → Prop
  | .addState s _ => s.Bare
  | _ => True

/-- **Well-formed statecharts are valid**: what `validate()` checks (`SoundRefs`) is part of W4 and W6, so
    every well-formed statechart with duplicate-free dictionaries (`tidyExtraB`, decidable) meets the hypotheses of the editing
    theorems of C16 (consistent dictionaries, `validate()` passes). -/
theorem validate_of_wf (c : Chart) (h : WFChart c) (hp : tidyExtraB c = true) :
    Tidy c ∧ c.validate = true := by
  have ht := tidy_of_wf c h hp
  refine ⟨ht, (validate_iff c ht).2 ?_⟩
  intro s hs
  have hst := stateFor_of_mem c h.names s hs
  constructor
  · intro hk i hi
    obtain ⟨i', hi', hpi⟩ := h.initial s.name s hst hk
    rw [hi] at hi'
    cases hi'
    exact hpi
  · intro hk m hm
    obtain ⟨p, m', hp1, _, hm', hp2, hne⟩ := h.history s.name s hst hk
    rw [hm] at hm'
    cases hm'
    exact ⟨hne, p, hp1, hp2⟩

end Chart
end Sismic
