import Sismic.Proofs.Frame
import Sismic.Proofs.Queue
/-!
# Sismic.Proofs.Times — who writes the entry and idle times

For every outcome of `execute_once`: a recorded entry (idle) time changes only to the step time;
and every state active afterwards either was active before with the entry time it had, or has the
step time as its entry time (it became active during this call).
-/
namespace Sismic
open M

variable {σ ω : Type}

structure RTm (rs rs' : RS σ ω) : Prop where
  time : rs'.st.time = rs.st.time
  entry : ∀ s, assocGet s rs'.st.entryTime = assocGet s rs.st.entryTime ∨ assocGet s rs'.st.entryTime = some rs.st.time
  idle : ∀ s, assocGet s rs'.st.idleTime = assocGet s rs.st.idleTime ∨ assocGet s rs'.st.idleTime = some rs.st.time
  active : ∀ s, s ∈ rs'.st.config →
    (s ∈ rs.st.config ∧ assocGet s rs'.st.entryTime = assocGet s rs.st.entryTime) ∨
    assocGet s rs'.st.entryTime = some rs.st.time

theorem RTm.same {rs rs' : RS σ ω} (ht : rs'.st.time = rs.st.time) (he : rs'.st.entryTime = rs.st.entryTime)
    (hi : rs'.st.idleTime = rs.st.idleTime) (hc : ∀ x, x ∈ rs'.st.config → x ∈ rs.st.config) : RTm rs rs' :=
  ⟨ht, fun s => Or.inl (by rw [he]), fun s => Or.inl (by rw [hi]), fun s h => Or.inl ⟨hc s h, by rw [he]⟩⟩

theorem RTm_pre : PreOrd (RTm : RS σ ω → RS σ ω → Prop) where
  refl a := RTm.same rfl rfl rfl (fun _ h => h)
  trans a b c h1 h2 := by
    refine ⟨h2.time.trans h1.time, ?_, ?_, ?_⟩
    · intro s
      rcases h2.entry s with a2 | a2
      · rcases h1.entry s with a1 | a1
        · exact Or.inl (a2.trans a1)
        · exact Or.inr (a2.trans a1)
      · exact Or.inr (by rw [a2, h1.time])
    · intro s
      rcases h2.idle s with a2 | a2
      · rcases h1.idle s with a1 | a1
        · exact Or.inl (a2.trans a1)
        · exact Or.inr (a2.trans a1)
      · exact Or.inr (by rw [a2, h1.time])
    · intro s hs
      rcases h2.active s hs with ⟨hb, a2⟩ | a2
      · rcases h1.active s hb with ⟨ha, a1⟩ | a1
        · exact Or.inl ⟨ha, a2.trans a1⟩
        · exact Or.inr (a2.trans a1)
      · exact Or.inr (by rw [a2, h1.time])

variable (env : Env σ ω)

theorem rtm_modify (f : IState σ → IState σ)
    (hf : ∀ st, (f st).time = st.time ∧ (f st).entryTime = st.entryTime ∧ (f st).idleTime = st.idleTime ∧
      (∀ x, x ∈ (f st).config → x ∈ st.config)) :
    Rel RTm (M.modify f : M σ ω Unit) := by
  intro rs
  exact RTm.same (hf rs.st).1 (hf rs.st).2.1 (hf rs.st).2.2.1 (hf rs.st).2.2.2

theorem rtm_emit (e : Effect) : Rel RTm (M.emit e : M σ ω Unit) := by
  intro rs; exact RTm.same rfl rfl rfl (fun _ h => h)

theorem rtm_raise (m : Event) : Rel RTm (raiseMeta env m) := fun rs => by
  obtain ⟨q, h⟩ := extq_raiseMeta env m rs
  exact RTm.same (by rw [h]) (by rw [h]) (by rw [h]) (fun x hx => by rw [h] at hx; exact hx)

theorem rtm_markEnter (n : Name) : Rel RTm (M.modify (fun st => { st with
    config := if st.config.contains n then st.config else st.config ++ [n],
    entryTime := assocSet n st.time st.entryTime,
    idleTime := assocSet n st.time st.idleTime }) : M σ ω Unit) := by
  intro rs
  simp only [M.modify]
  refine ⟨rfl, ?_, ?_, ?_⟩
  · intro s
    by_cases h : s = n
    · subst h; exact Or.inr (assocGet_assocSet_same _ _ _)
    · exact Or.inl (assocGet_assocSet_other _ _ _ _ h)
  · intro s
    by_cases h : s = n
    · subst h; exact Or.inr (assocGet_assocSet_same _ _ _)
    · exact Or.inl (assocGet_assocSet_other _ _ _ _ h)
  · intro s hs
    by_cases h : s = n
    · subst h; exact Or.inr (assocGet_assocSet_same _ _ _)
    · left
      refine ⟨?_, assocGet_assocSet_other _ _ _ _ h⟩
      simp only at hs
      split at hs
      · exact hs
      · rcases List.mem_append.mp hs with hs | hs
        · exact hs
        · exact absurd (List.mem_singleton.mp hs) h

theorem rtm_markFire (n : Name) :
    Rel RTm (M.modify (fun st => { st with idleTime := assocSet n st.time st.idleTime }) : M σ ω Unit) := by
  intro rs
  simp only [M.modify]
  refine ⟨rfl, fun s => Or.inl rfl, ?_, fun s hs => Or.inl ⟨hs, rfl⟩⟩
  intro s
  by_cases h : s = n
  · subst h; exact Or.inr (assocGet_assocSet_same _ _ _)
  · exact Or.inl (assocGet_assocSet_other _ _ _ _ h)

theorem rtm_respects : RespectsQ env (RTm : RS σ ω → RS σ ω → Prop) where
  pre := RTm_pre
  modify f hf := rtm_modify f (fun st => ⟨(hf st).1, (hf st).2.2.2.2.2.1, (hf st).2.2.2.2.2.2.1, (hf st).2.2.2.2.2.2.2⟩)
  emit e _ := rtm_emit e
  raise m := rtm_raise env m
  contract := contract_of_prims env RTm_pre
    (fun _ => rtm_modify _ fun _ => ⟨rfl, rfl, rfl, fun _ h => h⟩) (fun _ _ _ _ _ => rtm_emit _)
  send := (Logic.ofPre RTm_pre).sendOne env (rtm_raise env)
    (fun _ => by unfold queueEvent; exact rtm_modify _ fun _ => ⟨rfl, rfl, rfl, fun _ h => h⟩)
    fun _ => rtm_modify _ fun _ => ⟨rfl, rfl, rfl, fun _ h => h⟩
  markEnter n := rtm_markEnter n
  markFire n := rtm_markFire n
  consume := (Logic.ofPre RTm_pre).consumeOne env (rtm_raise env)
    (rtm_modify _ fun st => by rw [popEvent_queues]; exact ⟨rfl, rfl, rfl, fun _ h => h⟩)

theorem executeOnce_times (clock : Int) (rs : RS σ ω) :
    let rs' := (executeOnce env clock rs).2
    (∀ s, assocGet s rs'.st.entryTime = assocGet s rs.st.entryTime ∨ assocGet s rs'.st.entryTime = some clock) ∧
    (∀ s, assocGet s rs'.st.idleTime = assocGet s rs.st.idleTime ∨ assocGet s rs'.st.idleTime = some clock) ∧
    (∀ s, s ∈ rs'.st.config →
      (s ∈ rs.st.config ∧ assocGet s rs'.st.entryTime = assocGet s rs.st.entryTime) ∨
      assocGet s rs'.st.entryTime = some clock) := by
  have key := rel_executeOnce (rtm_respects env) clock rs
  exact ⟨key.entry, key.idle, key.active⟩

end Sismic
