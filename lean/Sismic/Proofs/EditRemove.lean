import Sismic.Proofs.EditAcyclic
import Sismic.Proofs.LegalMulti
/-!
# Sismic.Proofs.EditRemove — what `remove_state` removes

On a consistent acyclic statechart a successful `remove_state(n)` removes exactly the subtree of
`n` — `n` and its descendants (`Sub c n`) — and exactly the transitions that touch it, and leaves
the parent of every other state alone.
-/
namespace Sismic
namespace Chart

open Classical in
/-- the transitions that survive the removal of the subtrees of `ks` -/
noncomputable def keepOutside (c : Chart) (ks : List Name) (t : Trans) : Bool :=
  decide ((∀ k ∈ ks, ¬ Sub c k t.source) ∧ ∀ tg, t.target = some tg → ∀ k ∈ ks, ¬ Sub c k tg)

/-- `c'` is `c` without the subtrees of `ks` -/
structure Without (c : Chart) (ks : List Name) (c' : Chart) : Prop where
  states : ∀ x, c'.hasState x = true ↔ (c.hasState x = true ∧ ∀ k ∈ ks, ¬ Sub c k x)
  parent : ∀ x, (∀ k ∈ ks, ¬ Sub c k x) → c'.parentFor x = c.parentFor x
  transitions : c'.transitions = c.transitions.filter (keepOutside c ks)

theorem Without.nil (c : Chart) : Without c [] c where
  states := by intro x; simp
  parent := by intro x _; rfl
  transitions := by
    symm
    rw [List.filter_eq_self]
    intro t _
    simp [keepOutside]

theorem Without.gone_parent {c c' : Chart} {ks : List Name} (h : Without c ks c') (ht' : Tidy c') (x : Name)
    (hx : ∃ k ∈ ks, Sub c k x) : c'.parentFor x = none := by
  apply parentFor_of_not_key
  intro hk
  have := (h.states x).1 (ht'.parentKeysStates x hk)
  obtain ⟨k, hk1, hk2⟩ := hx
  exact this.2 k hk1 hk2

theorem Without.anc_iff {c c' : Chart} {ks : List Name} (h : Without c ks c') (ht' : Tidy c') (k : Name)
    (hout : ∀ x, Sub c k x → ∀ k' ∈ ks, ¬ Sub c k' x) (x : Name) : Anc c' k x ↔ Anc c k x := by
  constructor
  · intro ha
    induction ha with
    | @base s hp =>
      have hkeep : ∀ k' ∈ ks, ¬ Sub c k' s := by
        intro k' hk' hs
        have := h.gone_parent ht' s ⟨k', hk', hs⟩
        rw [this] at hp; cases hp
      rw [h.parent s hkeep] at hp
      exact Anc.base hp
    | @step p s hp _ ih =>
      have hkeep : ∀ k' ∈ ks, ¬ Sub c k' s := by
        intro k' hk' hs
        have := h.gone_parent ht' s ⟨k', hk', hs⟩
        rw [this] at hp; cases hp
      rw [h.parent s hkeep] at hp
      exact Anc.step hp ih
  · intro ha
    induction ha with
    | @base s hp =>
      have hkeep := hout s (Or.inr (Anc.base hp))
      rw [← h.parent s hkeep] at hp
      exact Anc.base hp
    | @step p s hp hap ih =>
      have hkeep := hout s (Or.inr (Anc.step hp hap))
      rw [← h.parent s hkeep] at hp
      exact Anc.step hp ih

theorem Without.congr {c c' : Chart} {ks ks' : List Name} (h : Without c ks c') (hm : ∀ k, k ∈ ks ↔ k ∈ ks') :
    Without c ks' c' where
  states := by
    intro x
    rw [h.states x]
    constructor
    · exact fun ⟨a, b⟩ => ⟨a, fun k hk => b k ((hm k).2 hk)⟩
    · exact fun ⟨a, b⟩ => ⟨a, fun k hk => b k ((hm k).1 hk)⟩
  parent := fun x hx => h.parent x (fun k hk => hx k ((hm k).1 hk))
  transitions := by
    rw [h.transitions]
    apply List.filter_congr
    intro t _
    simp only [keepOutside, decide_eq_decide]
    constructor
    · exact fun ⟨a, b⟩ => ⟨fun k hk => a k ((hm k).2 hk), fun tg e k hk => b tg e k ((hm k).2 hk)⟩
    · exact fun ⟨a, b⟩ => ⟨fun k hk => a k ((hm k).1 hk), fun tg e k hk => b tg e k ((hm k).1 hk)⟩

theorem keepOutside_iff (c : Chart) (ks : List Name) (t : Trans) :
    keepOutside c ks t = true ↔
      ((∀ k ∈ ks, ¬ Sub c k t.source) ∧ ∀ tg, t.target = some tg → ∀ k ∈ ks, ¬ Sub c k tg) := by
  simp only [keepOutside, decide_eq_true_eq]

theorem Without.cons {c c0 c1 : Chart} {ks : List Name} (h0 : Without c ks c0) (ht0 : Tidy c0) (k : Name)
    (hout : ∀ x, Sub c k x → ∀ k' ∈ ks, ¬ Sub c k' x) (h1 : Without c0 [k] c1) : Without c (k :: ks) c1 := by
  have hsub : ∀ x, Sub c0 k x ↔ Sub c k x := by
    intro x
    unfold Sub
    rw [h0.anc_iff ht0 k hout x]
  have one : ∀ x, (∀ k' ∈ [k], ¬ Sub c0 k' x) ↔ ¬ Sub c k x := fun x => by
    rw [List.forall_mem_singleton, hsub x]
  have more : ∀ x, (∀ k' ∈ k :: ks, ¬ Sub c k' x) ↔ (¬ Sub c k x ∧ ∀ k' ∈ ks, ¬ Sub c k' x) := fun _ =>
    List.forall_mem_cons
  refine ⟨?_, ?_, ?_⟩
  · intro x
    rw [h1.states x, h0.states x, one x, more x]
    constructor
    · exact fun ⟨⟨a, b⟩, d⟩ => ⟨a, d, b⟩
    · exact fun ⟨a, d, b⟩ => ⟨⟨a, b⟩, d⟩
  · intro x hx
    rw [more x] at hx
    rw [h1.parent x ((one x).2 hx.1), h0.parent x hx.2]
  · rw [h1.transitions, h0.transitions, List.filter_filter]
    apply List.filter_congr
    intro t _
    rw [Bool.eq_iff_iff, Bool.and_eq_true, keepOutside_iff, keepOutside_iff, keepOutside_iff, one t.source, more t.source]
    constructor
    · rintro ⟨⟨b1, b2⟩, ⟨a1, a2⟩⟩
      refine ⟨⟨b1, a1⟩, fun tg e => (more tg).2 ⟨(one tg).1 (b2 tg e), a2 tg e⟩⟩
    · rintro ⟨⟨b1, a1⟩, h2⟩
      exact ⟨⟨b1, fun tg e => (one tg).2 ((more tg).1 (h2 tg e)).1⟩, ⟨a1, fun tg e => ((more tg).1 (h2 tg e)).2⟩⟩

theorem sub_iff_children (c : Chart) (ht : Tidy c) (n x : Name) :
    Sub c n x ↔ (x = n ∨ ∃ k ∈ c.childrenFor n, Sub c k x) := by
  constructor
  · rintro (e | e)
    · exact .inl e
    · obtain ⟨k, hk, hs⟩ := Anc.child_of e
      exact .inr ⟨k, (ht.childParent n k).2 hk, hs⟩
  · rintro (e | ⟨k, hk, hs⟩)
    · exact .inl e
    · have hp := (ht.childParent n k).1 hk
      rcases hs with e | e
      · exact .inr (e ▸ Anc.base hp)
      · exact .inr ((Anc.base hp).trans e)

theorem removeLeaf_hasState_self (c : Chart) (n : Name) : (c.removeLeaf n).hasState n = false := by
  rw [hasState_false_iff, (removeLeaf_fields c n).1]
  intro hm
  obtain ⟨x, hx, e⟩ := List.mem_map.mp hm
  simpa [e] using (List.mem_filter.mp hx).2

theorem Without.leaf {c c1 : Chart} (ht : Tidy c) (n : Name) (h : Without c (c.childrenFor n) c1) :
    Without c [n] (c1.removeLeaf n) := by
  have one : ∀ x, (∀ k ∈ [n], ¬ Sub c k x) ↔ (x ≠ n ∧ ∀ k ∈ c.childrenFor n, ¬ Sub c k x) := fun x => by
    rw [List.forall_mem_singleton, sub_iff_children c ht]
    simp only [not_or, not_exists, not_and, ne_eq]
  refine ⟨?_, ?_, ?_⟩
  · intro x
    rw [one x]
    by_cases e : x = n
    · subst e
      rw [removeLeaf_hasState_self]
      constructor
      · intro hh; cases hh
      · rintro ⟨_, a, _⟩; exact absurd rfl a
    · rw [removeLeaf_hasState c1 n x e, h.states x]
      constructor
      · exact fun ⟨a, b⟩ => ⟨a, e, b⟩
      · exact fun ⟨a, _, b⟩ => ⟨a, b⟩
  · intro x hx
    obtain ⟨e, hk⟩ := (one x).1 hx
    rw [removeLeaf_parentFor c1 n x e, h.parent x hk]
  · rw [(removeLeaf_fields c1 n).2.2.2, h.transitions, List.filter_filter]
    apply List.filter_congr
    intro t _
    rw [Bool.eq_iff_iff, Bool.and_eq_true, keepOutside_iff, keepOutside_iff, one t.source]
    simp only [Bool.not_eq_true', Bool.or_eq_false_iff, beq_eq_false_iff_ne, ne_eq]
    constructor
    · rintro ⟨⟨a1, a2⟩, ⟨b1, b2⟩⟩
      refine ⟨⟨a1, b1⟩, fun tg e => (one tg).2 ⟨fun e2 => a2 (by rw [e, e2]), b2 tg e⟩⟩
    · rintro ⟨⟨a1, b1⟩, h2⟩
      refine ⟨⟨a1, ?_⟩, ⟨b1, fun tg e => ((one tg).1 (h2 tg e)).2⟩⟩
      intro e
      exact ((one n).1 (h2 n e)).1 rfl

/-- **What a successful `remove_state(n)` removes**: the subtree of `n`, the transitions touching it,
    and nothing else. -/
theorem removeStateF_without : ∀ (f : Nat) (c : Chart) (n : Name), Tidy c → c.RankedE →
    ∀ c', removeStateF f c n = (.ok (), c') → Without c [n] c'
  | 0, c, n, _, _, c', h => by simp [removeStateF] at h
  | f+1, c, n, ht, hr, c', h => by
    unfold removeStateF at h
    split at h
    · cases h
    next hhas =>
    have hn : c.hasState n = true := by simpa using hhas
    have hne : c.states ≠ [] := by
      intro e
      simp [hasState, stateFor, e] at hn
    have hT := treeOK_of_ranked c ht hr.ranked hne
    -- `done`: the children of `n` whose subtrees are gone already; `c0` is `c` without them
    have hgo : ∀ (l done : List Name) (c0 : Chart), Tidy c0 → c0.RankedE → Without c done c0 →
        (∀ k ∈ l, c.parentFor k = some n) → (∀ k ∈ done, c.parentFor k = some n) → (∀ k ∈ l, k ∉ done) → l.Nodup →
        ∀ c1, removeStateF.go f c0 l = (.ok (), c1) →
          ∃ ks, (∀ k, k ∈ ks ↔ (k ∈ l ∨ k ∈ done)) ∧ Without c ks c1 := by
      intro l
      induction l with
      | nil =>
        intro done c0 _ _ hw _ _ _ _ c1 hg
        unfold removeStateF.go at hg
        cases hg
        exact ⟨done, fun k => by simp, hw⟩
      | cons k rest ih =>
        intro done c0 ht0 hr0 hw hl hd hnew hnd c1 hg
        unfold removeStateF.go at hg
        obtain ⟨res, c0', hx⟩ : ∃ res c0', removeStateF f c0 k = (res, c0') := ⟨_, _, rfl⟩
        simp only [hx] at hg
        cases res with
        | error e => cases hg
        | ok u =>
          have hk : c.parentFor k = some n := hl k List.mem_cons_self
          have hw1 := removeStateF_without f c0 k ht0 hr0 c0' hx
          have hout : ∀ x, Sub c k x → ∀ k' ∈ done, ¬ Sub c k' x := by
            intro x hs k' hk' hs'
            have hne' : k ≠ k' := fun e => hnew k List.mem_cons_self (e ▸ hk')
            exact siblings_disjoint c hT hk (hd k' hk') hne' hs hs'
          have hw' := hw.cons ht0 k hout hw1
          have ht0' : Tidy c0' := by
            have := (removeStateF_tidy f c0 k ht0).1.tidy
            rw [hx] at this; exact this
          have hr0' : c0'.RankedE := by
            have := removeStateF_rankedE f c0 k hr0
            rw [hx] at this; exact this
          rw [List.nodup_cons] at hnd
          obtain ⟨ks, hks, hwk⟩ := ih (k :: done) c0' ht0' hr0' hw'
            (fun k' hk' => hl k' (List.mem_cons_of_mem _ hk'))
            (fun k' hk' => by
              rcases List.mem_cons.1 hk' with e | e
              · rw [e]; exact hk
              · exact hd k' e)
            (fun k' hk' hm => by
              rcases List.mem_cons.1 hm with e | e
              · exact hnd.1 (e ▸ hk')
              · exact hnew k' (List.mem_cons_of_mem _ hk') e)
            hnd.2 c1 hg
          refine ⟨ks, ?_, hwk⟩
          intro k'
          rw [hks k']
          simp only [List.mem_cons]
          constructor
          · rintro (a | a | a)
            · exact .inl (.inr a)
            · exact .inl (.inl a)
            · exact .inr a
          · rintro ((a | a) | a)
            · exact .inr (.inl a)
            · exact .inl a
            · exact .inr (.inr a)
    obtain ⟨res, c1, hx⟩ : ∃ res c1, removeStateF.go f c (c.childrenFor n) = (res, c1) := ⟨_, _, rfl⟩
    simp only [hx] at h
    cases res with
    | error e => cases h
    | ok u =>
      simp only [Prod.mk.injEq, true_and] at h
      subst h
      obtain ⟨ks, hks, hw⟩ := hgo (c.childrenFor n) [] c ht hr (Without.nil c)
        (fun k hk => (ht.childParent n k).1 hk) (fun _ hk => by cases hk) (fun _ _ hk => by cases hk)
        (ht.childrenNodup n) c1 hx
      exact (hw.congr (fun k => by rw [hks k]; simp)).leaf ht n

theorem removeState_without (c : Chart) (n : Name) (ht : Tidy c) (hc : c.Ranked) (h : (c.removeState n).1 = .ok ()) :
    Without c [n] (c.removeState n).2 := by
  apply removeStateF_without _ c n ht (hc.rankedE ht)
  unfold removeState at h ⊢
  cases hr : removeStateF (c.states.length + 1) c n with
  | mk r c' =>
    rw [hr] at h
    simp only at h
    rw [h]

end Chart
end Sismic
