import Sismic.Proofs.Frame
import Sismic.Proofs.Queue
/-!
# Sismic.Proofs.QueueInv — what `execute_once` does to the two event queues, for every outcome

* the queues stay ordered by due time;
* nothing is invented, lost or duplicated: the internal queue afterwards, plus what was consumed
  from it, is the internal queue before plus one entry `(step time + delay, e)` for every internal
  event appended to `_sent_events` during the call; the external queue changes only by the
  consumption of its head and by what listeners queue;
* at most one entry is consumed, and it was due.
-/
namespace Sismic
open M

variable {σ ω : Type}

def internals : List Sent → List Event
  | [] => []
  | .internal e :: r => e :: internals r
  | .notify _ :: r => internals r

theorem internals_append (a b : List Sent) : internals (a ++ b) = internals a ++ internals b := by
  induction a with
  | nil => rfl
  | cons x xs ih => cases x <;> simp [internals, ih]

/-- the queue entries made for what was sent at step time `t` -/
def entriesOf (t : Int) (l : List Sent) : List (Int × Event) := (internals l).map (fun e => (t + e.delay, e))

theorem entriesOf_append (t : Int) (a b : List Sent) : entriesOf t (a ++ b) = entriesOf t a ++ entriesOf t b := by
  simp [entriesOf, internals_append]

/-- conservation composes: what is pending after the second part, with what both parts consumed, is
    what was pending at first with what both parts added -/
theorem perm_conserve {α} {a b c x₁ x₂ e₁ e₂ : List α} (h₁ : (b ++ x₁).Perm (a ++ e₁)) (h₂ : (c ++ x₂).Perm (b ++ e₂)) :
    (c ++ (x₂ ++ x₁)).Perm (a ++ (e₁ ++ e₂)) := by
  rw [← List.append_assoc, ← List.append_assoc]
  refine (List.Perm.append_right x₁ h₂).trans ?_
  rw [List.append_assoc]
  refine (List.Perm.append_left _ List.perm_append_comm).trans ?_
  rw [← List.append_assoc]
  exact List.Perm.append_right _ h₁

/-- no consumption -/
structure RQ0 (rs rs' : RS σ ω) : Prop where
  time : rs'.st.time = rs.st.time
  listeners : rs'.st.listeners = rs.st.listeners
  sortedI : QSorted rs.st.intQ → QSorted rs'.st.intQ
  sortedE : QSorted rs.st.extQ → QSorted rs'.st.extQ
  cons : ∃ new added, rs'.st.sentEvents = rs.st.sentEvents ++ new ∧
    rs'.st.intQ.Perm (rs.st.intQ ++ entriesOf rs.st.time new) ∧
    rs'.st.extQ.Perm (rs.st.extQ ++ added) ∧ (rs.st.listeners = [] → added = [])

theorem RQ0.same {rs rs' : RS σ ω} (h : rs'.st = rs.st) : RQ0 rs rs' where
  time := by rw [h]
  listeners := by rw [h]
  sortedI := by rw [h]; exact id
  sortedE := by rw [h]; exact id
  cons := ⟨[], [], by simp [h, entriesOf, internals]⟩

theorem RQ0_pre : PreOrd (RQ0 : RS σ ω → RS σ ω → Prop) where
  refl a := RQ0.same rfl
  trans a b c h1 h2 := by
    obtain ⟨n1, a1, s1, i1, e1, c1⟩ := h1.cons
    obtain ⟨n2, a2, s2, i2, e2, c2⟩ := h2.cons
    refine ⟨h2.time.trans h1.time, h2.listeners.trans h1.listeners, fun h => h2.sortedI (h1.sortedI h),
      fun h => h2.sortedE (h1.sortedE h), n1 ++ n2, a1 ++ a2, ?_, ?_, ?_, ?_⟩
    · rw [s2, s1, List.append_assoc]
    · rw [h1.time] at i2
      simpa [entriesOf_append] using perm_conserve (x₁ := []) (x₂ := []) (by simpa using i1) (by simpa using i2)
    · simpa using perm_conserve (x₁ := []) (x₂ := []) (by simpa using e1) (by simpa using e2)
    · intro hl
      rw [c1 hl, c2 (h1.listeners.trans hl)]
      rfl

theorem foldl_queueInsert (t : Int) (qs : List Event) : ∀ q : List (Int × Event),
    (QSorted q → QSorted (qs.foldl (fun q e => queueInsert (t + e.delay) e q) q)) ∧
    (qs.foldl (fun q e => queueInsert (t + e.delay) e q) q).Perm (q ++ qs.map (fun e => (t + e.delay, e))) := by
  induction qs with
  | nil => intro q; simp
  | cons e qs ih =>
    intro q
    obtain ⟨so, p⟩ := ih (queueInsert (t + e.delay) e q)
    refine ⟨fun h => so (queueInsert_sorted _ _ _ h), p.trans ?_⟩
    refine (List.Perm.append_right _ (queueInsert_perm (t + e.delay) e q)).trans ?_
    simp only [List.map_cons, List.cons_append]
    exact List.perm_middle.symm

variable (env : Env σ ω)

/-- weak form used under the loop over the listeners -/
structure RQw (rs rs' : RS σ ω) : Prop where
  time : rs'.st.time = rs.st.time
  listeners : rs'.st.listeners = rs.st.listeners
  intQ : rs'.st.intQ = rs.st.intQ
  sent : rs'.st.sentEvents = rs.st.sentEvents
  sortedE : QSorted rs.st.extQ → QSorted rs'.st.extQ
  ext : ∃ added, rs'.st.extQ.Perm (rs.st.extQ ++ added)

theorem RQw.same {rs rs' : RS σ ω} (h : rs'.st = rs.st) : RQw rs rs' :=
  ⟨by rw [h], by rw [h], by rw [h], by rw [h], by rw [h]; exact id, [], by simp [h]⟩

theorem RQw_pre : PreOrd (RQw : RS σ ω → RS σ ω → Prop) where
  refl a := RQw.same rfl
  trans a b c h1 h2 := by
    obtain ⟨a1, e1⟩ := h1.ext
    obtain ⟨a2, e2⟩ := h2.ext
    refine ⟨h2.time.trans h1.time, h2.listeners.trans h1.listeners, h2.intQ.trans h1.intQ,
      h2.sent.trans h1.sent, fun h => h2.sortedE (h1.sortedE h), a1 ++ a2, ?_⟩
    rw [← List.append_assoc]
    exact e2.trans (List.Perm.append_right _ e1)

theorem rqw_raise (m : Event) : Rel RQw (raiseMeta env m) := by
  refine Rel.bind RQw_pre (fun rs => RQw.same rfl) fun _ => Rel.bind RQw_pre (Rel.get RQw_pre) fun _ =>
    Rel.forEach RQw_pre (fun l rs => ?_) _
  obtain ⟨so, p⟩ := foldl_queueInsert rs.st.time (env.deliver l m rs.st.time rs.world).2.2 rs.st.extQ
  rw [callListener_eq]
  exact ⟨rfl, rfl, rfl, rfl, so, _, p⟩

theorem rq0_raise (m : Event) : Rel RQ0 (raiseMeta env m) := by
  intro rs
  have hw : RQw rs (raiseMeta env m rs).2 := rqw_raise env m rs
  obtain ⟨added, hp⟩ := hw.ext
  by_cases hl : rs.st.listeners = []
  · exact RQ0.same (by rw [raiseMeta_nil env m rs hl])
  · refine ⟨hw.time, hw.listeners, by rw [hw.intQ]; exact id, hw.sortedE, [], added, ?_, ?_, hp, fun h => absurd h hl⟩
    · rw [hw.sent]; simp
    · rw [hw.intQ]; simp [entriesOf, internals]

theorem rq0_modify (f : IState σ → IState σ)
    (hf : ∀ st, (f st).time = st.time ∧ (f st).listeners = st.listeners ∧ (f st).intQ = st.intQ ∧
      (f st).extQ = st.extQ ∧ (f st).sentEvents = st.sentEvents) : Rel RQ0 (M.modify f : M σ ω Unit) := by
  intro rs
  obtain ⟨t, l, i, e, s⟩ := hf rs.st
  refine ⟨t, l, ?_, ?_, [], [], ?_, ?_, ?_, fun _ => rfl⟩
  · simp only [M.modify]; rw [i]; exact id
  · simp only [M.modify]; rw [e]; exact id
  · simp only [M.modify]; rw [s]; simp
  · simp only [M.modify]; rw [i]; simp [entriesOf, internals]
  · simp only [M.modify]; rw [e]; simp

theorem rq0_emit (e : Effect) : Rel RQ0 (M.emit e : M σ ω Unit) := by
  intro rs; exact RQ0.same rfl

/-- listeners (bound interpreters, property statecharts, callables) that do not raise -/
def Quiet : Prop := ∀ l m t w, (env.deliver l m t w).1 = .ok ()

theorem raiseMeta_quiet (hq : Quiet env) (m : Event) (rs : RS σ ω) : (raiseMeta env m rs).1 = .ok () := by
  have hfe : ∀ (ls : List Nat) (rs : RS σ ω), (M.forEach (callListener env m) ls rs).1 = .ok () := by
    intro ls
    induction ls with
    | nil => intro rs; rfl
    | cons l ls ih =>
      intro rs
      have hc : (callListener env m l rs).1 = .ok () := by simp [callListener, hq l m]
      obtain ⟨r1, hx⟩ : ∃ r1, callListener env m l rs = (.ok (), r1) := ⟨_, Prod.ext hc rfl⟩
      simp only [M.forEach, M.bind, hx]
      exact ih r1
  simp only [raiseMeta, M.bind, M.emit, M.get]
  exact hfe _ _

theorem rq0_send (hq : Quiet env) (ev : Sent) : Rel RQ0 (sendOne env ev) := by
  cases ev with
  | notify m =>
    -- a notification makes no queue entry
    refine Rel.bind RQ0_pre (rq0_raise env m) fun _ rs => ⟨rfl, rfl, id, id, [.notify m], [], rfl, ?_, ?_, fun _ => rfl⟩
    · simp [M.modify, entriesOf, internals]
    · simp [M.modify]
  | internal e =>
    intro rs
    let rs0 : RS σ ω := { rs with st := { rs.st with intQ := queueInsert (rs.st.time + e.delay) e rs.st.intQ } }
    have hx0 : queueEvent (σ := σ) (ω := ω) true e rs = (.ok (), rs0) := by simp [queueEvent, M.modify, rs0]
    have h1 := rq0_raise env { name := "event sent", data := [("event", e.toVal)] } rs0
    obtain ⟨rs1, hx1⟩ : ∃ rs1, raiseMeta env { name := "event sent", data := [("event", e.toVal)] } rs0 = (.ok (), rs1) :=
      ⟨_, Prod.ext (raiseMeta_quiet env hq _ rs0) rfl⟩
    rw [hx1] at h1
    obtain ⟨rs2, hx2, h2⟩ : ∃ rs2, (if e.hasDelay then raiseMeta env { name := "delayed event sent", data := [("event", e.toVal)] }
        else (M.pure () : M σ ω Unit)) rs1 = (.ok (), rs2) ∧ RQ0 rs1 rs2 := by
      split
      · have := rq0_raise env { name := "delayed event sent", data := [("event", e.toVal)] } rs1
        exact ⟨_, Prod.ext (raiseMeta_quiet env hq _ rs1) rfl, this⟩
      · exact ⟨rs1, rfl, RQ0_pre.refl _⟩
    have h12 := RQ0_pre.trans _ _ _ h1 h2
    have hfin : (sendOne env (.internal e) rs).2 = { rs2 with st := { rs2.st with sentEvents := rs2.st.sentEvents ++ [.internal e] } } := by
      unfold sendOne raiseSent
      simp only [M.bind, hx0, hx1, hx2, M.modify]
    rw [hfin]
    obtain ⟨n1, a1, s1, i1, e1, c1⟩ := h12.cons
    have hins : (rs0.st.intQ).Perm (rs.st.intQ ++ [(rs.st.time + e.delay, e)]) :=
      (queueInsert_perm _ _ _).trans (List.perm_append_singleton _ _).symm
    refine ⟨h12.time, h12.listeners, fun h => h12.sortedI (queueInsert_sorted _ _ _ h), h12.sortedE,
      n1 ++ [.internal e], a1, ?_, ?_, e1, c1⟩
    · show rs2.st.sentEvents ++ [Sent.internal e] = rs.st.sentEvents ++ (n1 ++ [Sent.internal e])
      rw [s1]; simp [rs0]
    · show rs2.st.intQ.Perm _
      rw [entriesOf_append]
      have : entriesOf rs.st.time [Sent.internal e] = [(rs.st.time + e.delay, e)] := rfl
      rw [this]
      refine i1.trans ?_
      refine (List.Perm.append_right _ hins).trans ?_
      simp only [List.append_assoc]
      exact List.Perm.append_left _ List.perm_append_comm

theorem rq0_respects (hq : Quiet env) : RespectsS env (RQ0 : RS σ ω → RS σ ω → Prop) where
  pre := RQ0_pre
  modify f hf := rq0_modify f (fun st => ⟨(hf st).1, (hf st).2.1, (hf st).2.2.1, (hf st).2.2.2.1, (hf st).2.2.2.2.1⟩)
  emit e _ := rq0_emit e
  raise m := rq0_raise env m
  contract := contract_of_prims env RQ0_pre
    (fun _ => rq0_modify _ fun _ => ⟨rfl, rfl, rfl, rfl, rfl⟩) (fun _ _ _ _ _ => rq0_emit _)
  send ev := rq0_send env hq ev
  markEnter n := rq0_modify _ (fun st => ⟨rfl, rfl, rfl, rfl, rfl⟩)
  markFire n := rq0_modify _ (fun st => ⟨rfl, rfl, rfl, rfl, rfl⟩)

/-- with the consumption of at most one entry, which was due -/
structure RQP (rs rs' : RS σ ω) : Prop where
  time : rs'.st.time = rs.st.time
  listeners : rs'.st.listeners = rs.st.listeners
  sortedI : QSorted rs.st.intQ → QSorted rs'.st.intQ
  sortedE : QSorted rs.st.extQ → QSorted rs'.st.extQ
  cons : ∃ new added pi pe, rs'.st.sentEvents = rs.st.sentEvents ++ new ∧
    (rs'.st.intQ ++ pi).Perm (rs.st.intQ ++ entriesOf rs.st.time new) ∧
    (rs'.st.extQ ++ pe).Perm (rs.st.extQ ++ added) ∧ (rs.st.listeners = [] → added = []) ∧
    (pi ++ pe).length ≤ 1 ∧ ∀ p ∈ pi ++ pe, p.1 ≤ rs.st.time

theorem RQ0.toP {rs rs' : RS σ ω} (h : RQ0 rs rs') : RQP rs rs' := by
  obtain ⟨n, a, s, i, e, c⟩ := h.cons
  exact ⟨h.time, h.listeners, h.sortedI, h.sortedE, n, a, [], [], s, by simpa using i, by simpa using e, c,
    by simp, by simp⟩

theorem RQP.after {a b c : RS σ ω} (h1 : RQ0 a b) (h2 : RQP b c) : RQP a c := by
  obtain ⟨n1, a1, s1, i1, e1, c1⟩ := h1.cons
  obtain ⟨n2, a2, pi, pe, s2, i2, e2, c2, hl, hd⟩ := h2.cons
  refine ⟨h2.time.trans h1.time, h2.listeners.trans h1.listeners, fun h => h2.sortedI (h1.sortedI h),
    fun h => h2.sortedE (h1.sortedE h), n1 ++ n2, a1 ++ a2, pi, pe, ?_, ?_, ?_, ?_, hl, ?_⟩
  · rw [s2, s1, List.append_assoc]
  · rw [h1.time] at i2
    simpa [entriesOf_append] using perm_conserve (x₁ := []) (by simpa using i1) i2
  · simpa using perm_conserve (x₁ := []) (by simpa using e1) e2
  · intro h; rw [c1 h, c2 (h1.listeners.trans h)]; rfl
  · intro p hp; rw [← h1.time]; exact hd p hp

theorem RQP.before {a b c : RS σ ω} (h1 : RQP a b) (h2 : RQ0 b c) : RQP a c := by
  obtain ⟨n1, a1, pi, pe, s1, i1, e1, c1, hl, hd⟩ := h1.cons
  obtain ⟨n2, a2, s2, i2, e2, c2⟩ := h2.cons
  refine ⟨h2.time.trans h1.time, h2.listeners.trans h1.listeners, fun h => h2.sortedI (h1.sortedI h),
    fun h => h2.sortedE (h1.sortedE h), n1 ++ n2, a1 ++ a2, pi, pe, ?_, ?_, ?_, ?_, hl, hd⟩
  · rw [s2, s1, List.append_assoc]
  · rw [h1.time] at i2
    rw [entriesOf_append]
    exact perm_conserve (x₂ := []) i1 (by simpa using i2)
  · exact perm_conserve (x₂ := []) e1 (by simpa using e2)
  · intro h; rw [c1 h, c2 (h1.listeners.trans h)]; rfl

theorem rqp_consume : ∀ rs : RS σ ω, RQP rs (consumeOne env rs).2 := by
  intro rs
  unfold consumeOne
  simp only [M.bind, M.get, M.modify]
  have hpop : RQP rs ({ rs with st := (popEvent rs.st).2 } : RS σ ω) := by
    rcases pop_spec rs.st with ⟨_, h⟩ | ⟨d, e, r, hq, hd, _, h⟩ | ⟨d, e, r, hq, hd, _, _, h⟩
    · exact (RQ0.same (by simp [h])).toP
    · refine ⟨by simp [h], by simp [h], ?_, by simp [h], [], [], [(d, e)], [], ?_⟩
      · intro hs; simp only [h]; rw [hq] at hs; exact hs.of_cons
      · simp only [h, List.append_nil, List.nil_append, entriesOf, internals, List.map_nil, true_and]
        refine ⟨?_, List.Perm.refl _, fun _ => trivial, Nat.le_refl 1, ?_⟩
        · rw [hq]; exact (List.perm_append_singleton _ _)
        · intro p hp
          simp only [List.mem_singleton] at hp
          subst hp; exact hd
    · refine ⟨by simp [h], by simp [h], by simp [h], ?_, [], [], [], [(d, e)], ?_⟩
      · intro hs; simp only [h]; rw [hq] at hs; exact hs.of_cons
      · simp only [h, List.append_nil, List.nil_append, entriesOf, internals, List.map_nil, true_and]
        refine ⟨List.Perm.refl _, ?_, fun _ => trivial, Nat.le_refl 1, ?_⟩
        · rw [hq]; exact (List.perm_append_singleton _ _)
        · intro p hp
          simp only [List.mem_singleton] at hp
          subst hp; exact hd
  exact hpop.before (rq0_raise env _ _)

/-- a part that consumes nothing, then one that may -/
theorem RQP.bind0P {α β : Type} {x : M σ ω α} {f : α → M σ ω β}
    (hx : Rel RQ0 x) (hf : ∀ a, Rel RQP (f a)) : Rel RQP (M.bind x f) :=
  Rel.seq (R := RQ0) (S := RQP) (fun _ _ _ => RQP.after) (fun _ _ => RQ0.toP) hx hf

theorem RQP.bindP0 {α β : Type} {x : M σ ω α} {f : α → M σ ω β}
    (hx : Rel RQP x) (hf : ∀ a, Rel RQ0 (f a)) : Rel RQP (M.bind x f) :=
  Rel.seq (R := RQP) (S := RQ0) (fun _ _ _ => RQP.before) (fun _ _ h => h) hx hf

theorem executeOnce_queues (hq : Quiet env) (clock : Int) (rs : RS σ ω) :
    let rs' := (executeOnce env clock rs).2
    rs'.st.time = clock ∧ rs'.st.listeners = rs.st.listeners ∧
    (QSorted rs.st.intQ → QSorted rs'.st.intQ) ∧ (QSorted rs.st.extQ → QSorted rs'.st.extQ) ∧
    ∃ added pi pe,
      (rs'.st.intQ ++ pi).Perm (rs.st.intQ ++ entriesOf clock rs'.st.sentEvents) ∧
      (rs'.st.extQ ++ pe).Perm (rs.st.extQ ++ added) ∧ (rs.st.listeners = [] → added = []) ∧
      (pi ++ pe).length ≤ 1 ∧ ∀ p ∈ pi ++ pe, p.1 ≤ clock := by
  -- every part is `RQ0` but the one `consumeOne`, which is `RQP`; `bind0P` / `bindP0` put the `RQ0` parts
  -- before and after it
  have W := (rq0_respects env hq).toPrims.toWalk
  have hrun : ∀ computed, Rel RQP (runSteps env computed) := by
    intro computed
    unfold runSteps
    split
    · exact fun rs => (RQ0_pre.refl rs).toP
    · refine RQP.bindP0 ?_ fun _ =>
        Rel.bind RQ0_pre (walk_applyAll W _) fun _ => Rel.bind RQ0_pre (Rel.get RQ0_pre) fun _ => Rel.pure RQ0_pre _
      split
      · exact rqp_consume env
      · exact fun rs => (RQ0_pre.refl rs).toP
  have htail : Rel RQP (stepTail env clock) :=
    RQP.bind0P (rq0_raise env _) fun _ =>
      RQP.bind0P (walk_computeSteps W (Rel.throw RQ0_pre _) (Rel.throw RQ0_pre _)) fun computed =>
        RQP.bindP0 (hrun computed) fun ms => walk_finishStep W ms
  have tail := htail { rs with st := { rs.st with time := clock, sentEvents := [] } }
  rw [← executeOnce_eq] at tail
  obtain ⟨new, added, pi, pe, s, i, e, c, hl, hd⟩ := tail.cons
  refine ⟨tail.time, tail.listeners, tail.sortedI, tail.sortedE, added, pi, pe, ?_, e, c, hl, hd⟩
  rw [show (executeOnce env clock rs).2.st.sentEvents = new from s.trans (List.nil_append _)]
  exact i

/-! ### histories: `queue()` calls and `execute_once` calls in any order -/

inductive QOp
  | queue (e : Event)
  | exec (clock : Int)

/-- one call on the interpreter (whatever `execute_once` returns or raises) -/
def qstep (rs : RS σ ω) : QOp → RS σ ω
  | .queue e => { rs with st := { rs.st with extQ := queueInsert (rs.st.time + e.delay) e rs.st.extQ } }
  | .exec c => (executeOnce env c rs).2

def qrun (rs : RS σ ω) (ops : List QOp) : RS σ ω := ops.foldl (qstep env) rs

/-- the queue entries made during a history: one per `queue()` call (due = the interpreter's time
    at the call + delay) and one per internal event sent during a step (due = step time + delay) -/
def pushed (rs : RS σ ω) : List QOp → List (Int × Event)
  | [] => []
  | .queue e :: ops => (rs.st.time + e.delay, e) :: pushed (qstep env rs (.queue e)) ops
  | .exec c :: ops => entriesOf c (executeOnce env c rs).2.st.sentEvents ++ pushed (qstep env rs (.exec c)) ops

def execCount : List QOp → Nat
  | [] => 0
  | .queue _ :: ops => execCount ops
  | .exec _ :: ops => execCount ops + 1

theorem perm_swap_mid {α} (a b c d : List α) : ((a ++ b) ++ (c ++ d)).Perm ((a ++ c) ++ (b ++ d)) := by
  simp only [List.append_assoc]
  apply List.Perm.append_left
  rw [← List.append_assoc, ← List.append_assoc]
  exact List.Perm.append_right _ List.perm_append_comm

theorem perm_mix {α} {a' a p1 e1 b' b p2 e2 : List α} (h1 : (a' ++ p1).Perm (a ++ e1)) (h2 : (b' ++ p2).Perm (b ++ e2)) :
    ((a' ++ b') ++ (p1 ++ p2)).Perm ((a ++ b) ++ (e1 ++ e2)) :=
  (perm_swap_mid a' b' p1 p2).trans ((List.Perm.append h1 h2).trans (perm_swap_mid a e1 b e2))

/-- **Queues of a closed interpreter over any history**: they stay ordered by due time, and the
    entries pending at the end plus the consumed ones (at most one per `execute_once`) are exactly
    the entries pending at the start plus the entries made — nothing lost, nothing duplicated. -/
theorem qrun_conserves (hq : Quiet env) (ops : List QOp) : ∀ (rs : RS σ ω), rs.st.listeners = [] →
    (qrun env rs ops).st.listeners = [] ∧
    (QSorted rs.st.intQ → QSorted (qrun env rs ops).st.intQ) ∧
    (QSorted rs.st.extQ → QSorted (qrun env rs ops).st.extQ) ∧
    ∃ consumed, consumed.length ≤ execCount ops ∧
      (((qrun env rs ops).st.intQ ++ (qrun env rs ops).st.extQ) ++ consumed).Perm
        ((rs.st.intQ ++ rs.st.extQ) ++ pushed env rs ops) := by
  induction ops with
  | nil => intro rs hl; exact ⟨hl, id, id, [], Nat.le_refl _, by simp [qrun, pushed]⟩
  | cons op ops ih =>
    intro rs hl
    rw [show qrun env rs (op :: ops) = qrun env (qstep env rs op) ops from rfl]
    cases op with
    | queue e =>
      have hl1 : (qstep env rs (.queue e)).st.listeners = [] := hl
      obtain ⟨l2, si, se, consumed, hc, hp⟩ := ih (qstep env rs (.queue e)) hl1
      refine ⟨l2, si, fun h => se (queueInsert_sorted _ _ _ h), consumed, hc, ?_⟩
      have h : ((rs.st.intQ ++ queueInsert (rs.st.time + e.delay) e rs.st.extQ) ++ []).Perm
          ((rs.st.intQ ++ rs.st.extQ) ++ [(rs.st.time + e.delay, e)]) := by
        rw [List.append_nil, List.append_assoc]
        exact List.Perm.append_left _ ((queueInsert_perm _ _ _).trans (List.perm_append_singleton _ _).symm)
      have := perm_conserve h hp
      rw [List.append_nil] at this
      exact this
    | exec c =>
      obtain ⟨_, l1, s1i, s1e, added, pi, pe, hi, he, hadd, hlen, _⟩ := executeOnce_queues env hq c rs
      have hl1 : (qstep env rs (.exec c)).st.listeners = [] := l1.trans hl
      obtain ⟨l2, si, se, consumed, hc, hp⟩ := ih (qstep env rs (.exec c)) hl1
      rw [hadd hl] at he
      refine ⟨l2, fun h => si (s1i h), fun h => se (s1e h), consumed ++ (pi ++ pe), ?_, ?_⟩
      · simp only [execCount, List.length_append] at hlen ⊢
        omega
      · have := perm_conserve (perm_mix hi he) hp
        rw [List.append_nil] at this
        exact this

end Sismic
