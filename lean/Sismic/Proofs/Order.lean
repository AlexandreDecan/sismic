import Sismic.Proofs.Tree
import Sismic.Proofs.Sort
/-!
# Sismic.Proofs.Order — order of exits (innermost first) and entries (outermost first) of a transition step
-/
namespace Sismic

/-- each element is the parent of the next one -/
def DownChain (c : Chart) : List Name → Prop
  | [] => True
  | [_] => True
  | a :: b :: r => c.parentFor b = some a ∧ DownChain c (b :: r)

def UpChain (c : Chart) : List Name → Prop
  | [] => True
  | [_] => True
  | a :: b :: r => c.parentFor a = some b ∧ UpChain c (b :: r)

theorem upChain_ancestors (c : Chart) (h : TreeOK c) (t : Name) : UpChain c (t :: c.ancestors t) := by
  refine h.induction (P := fun t => UpChain c (t :: c.ancestors t)) (fun t ih => ?_) t
  rw [ancestors_unfold c h t]
  cases hp : c.parentFor t with
  | none => trivial
  | some p => exact ⟨hp, ih p hp⟩

theorem upChain_takeWhile (c : Chart) (p : Name → Bool) : ∀ (a : Name) (l : List Name),
    UpChain c (a :: l) → UpChain c (a :: l.takeWhile p)
  | _, [], _ => trivial
  | a, b :: r, h => by
    simp only [List.takeWhile_cons]
    split
    · exact ⟨h.1, upChain_takeWhile c p b r h.2⟩
    · trivial

theorem downChain_append_single (c : Chart) : ∀ (l : List Name) (x y : Name),
    DownChain c (l ++ [x]) → c.parentFor y = some x → DownChain c (l ++ [x] ++ [y])
  | [], x, y, _, hp => ⟨hp, trivial⟩
  | [a], x, y, h, hp => ⟨h.1, hp, trivial⟩
  | a :: b :: r, x, y, h, hp => ⟨h.1, downChain_append_single c (b :: r) x y h.2 hp⟩

theorem downChain_reverse (c : Chart) : ∀ l : List Name, UpChain c l → DownChain c l.reverse
  | [], _ => trivial
  | [_], _ => trivial
  | a :: b :: r, h => by
    have ih := downChain_reverse c (b :: r) h.2
    simp only [List.reverse_cons] at ih ⊢
    exact downChain_append_single c r.reverse b a ih h.1

/-- **entries outermost first**: in the list of states a transition enters, every state is the
    parent of the next one, down to the target -/
theorem enteredPath_downChain (c : Chart) (h : TreeOK c) (t : Name) (l : Option Name) :
    DownChain c (((c.ancestors t).takeWhile (fun x => some x != l)).reverse ++ [t]) := by
  have h1 := upChain_takeWhile c (fun x => some x != l) t _ (upChain_ancestors c h t)
  have := downChain_reverse c _ h1
  simpa [List.reverse_cons] using this

/-- **exits innermost first**: the exited descendants are ordered by decreasing depth, ties by name -/
theorem exited_sorted (c : Chart) (cfg ds : List Name) :
    ((isort c.leRevDepthName ds).filter cfg.contains).Pairwise
      (fun a b => c.depth b < c.depth a ∨ (c.depth a = c.depth b ∧ a ≤ b)) := by
  have hs := (leRevDepthName_total c).isort_sorted ds
  exact (hs.imp (fun hab => by simpa [Chart.leRevDepthName] using hab)).filter _

end Sismic
