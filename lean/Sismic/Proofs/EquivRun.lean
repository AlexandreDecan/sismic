import Sismic.Proofs.EquivPlan
import Sismic.Proofs.Hoare
import Sismic.Proofs.Queue
import Sismic.Proofs.C01
import Sismic.Proofs.OkSpec
import Sismic.Proofs.Legal
import Mathlib.Data.List.Forall2
/-!
# Sismic.Proofs.EquivRun — the interpreter commutes with a relabelling of the statechart

Two runs: `env` on a statechart `c`, `env'` on `c'` = `c` with every state name substituted by `ρ`
(injective and order-preserving on the names `c` mentions) and every transition re-identified by
`ι` (`IsRen ρ ι c c'`).  The evaluators and the listeners of the two runs cannot tell the
difference (`EnvR`: what they answer for an object is what they answer for the
relabelled object in the relabelled state).  Then every function of the interpreter, and
`execute_once` as a whole, returns the relabelled result — the same macro step with the names
substituted, or the same exception about the relabelled object — and leaves related states
(`RSR`): the same queues, times, sent events and outside world, configuration, history memory and
recorded times substituted, effect logs related entry by entry.
-/
namespace Sismic
open M

variable {σ ω : Type}

def ObjId.ren (ρ : Name → Name) (ι : Nat → Nat) : ObjId → ObjId
  | .state n => .state (ρ n)
  | .trans i => .trans (ι i)

def Obj.ren (ρ : Name → Name) (ι : Nat → Nat) : Obj → Obj
  | .state s => .state (s.rename ρ)
  | .trans t => .trans (t.relabel ρ ι)

theorem Obj.ren_id (ρ : Name → Name) (ι : Nat → Nat) (o : Obj) : (o.ren ρ ι).id = o.id.ren ρ ι := by
  cases o <;> rfl

theorem Obj.ren_conds (ρ : Name → Name) (ι : Nat → Nat) (o : Obj) (k : CondKind) : (o.ren ρ ι).conds k = o.conds k := by
  cases o <;> cases k <;> rfl

def ExecKind.ren (ρ : Name → Name) (ι : Nat → Nat) : ExecKind → ExecKind
  | .onEntry s => .onEntry (s.rename ρ)
  | .onExit s => .onExit (s.rename ρ)
  | .action t => .action (t.relabel ρ ι)

/-- the built-in meta-events that carry state names, and their relabelled versions; anything else
    (in particular what the statechart's own code notifies) is the same in both runs -/
inductive MetaR (ρ : Name → Name) : Event → Event → Prop
  | same (m : Event) : MetaR ρ m m
  | entered (n : Name) :
      MetaR ρ { name := "state entered", data := [("state", .str n)] }
              { name := "state entered", data := [("state", .str (ρ n))] }
  | exited (n : Name) :
      MetaR ρ { name := "state exited", data := [("state", .str n)] }
              { name := "state exited", data := [("state", .str (ρ n))] }
  | processed (s : Name) (tg : Option Name) (ev : Option Event) :
      MetaR ρ { name := "transition processed",
                data := [("source", .str s), ("target", optNameVal tg), ("event", optEventVal ev)] }
              { name := "transition processed",
                data := [("source", .str (ρ s)), ("target", optNameVal (tg.map ρ)), ("event", optEventVal ev)] }

inductive EffR (ρ : Name → Name) (ι : Nat → Nat) : Effect → Effect → Prop
  | guard (i : Nat) (e : Option Event) (r : Option Bool) : EffR ρ ι (.guard i e r) (.guard (ι i) e r)
  | cond (k : CondKind) (o : ObjId) (i : Nat) (e : Option Event) (r : Option Bool) :
      EffR ρ ι (.cond k o i e r) (.cond k (o.ren ρ ι) i e r)
  | onExit (n : Name) : EffR ρ ι (.onExit n) (.onExit (ρ n))
  | onEntry (n : Name) : EffR ρ ι (.onEntry n) (.onEntry (ρ n))
  | action (i : Nat) (e : Option Event) : EffR ρ ι (.action i e) (.action (ι i) e)
  | metaEv (m m' : Event) (h : MetaR ρ m m') : EffR ρ ι (.metaEv m) (.metaEv m')

inductive ErrR (ρ : Name → Name) (ι : Nat → Nat) : Err → Err → Prop
  | pre (o : ObjId) (c : String) : ErrR ρ ι (.precondition o c) (.precondition (o.ren ρ ι) c)
  | post (o : ObjId) (c : String) : ErrR ρ ι (.postcondition o c) (.postcondition (o.ren ρ ι) c)
  | inv (o : ObjId) (c : String) : ErrR ρ ι (.invariant o c) (.invariant (o.ren ρ ι) c)
  | same (e : Err) : ErrR ρ ι e e

theorem ErrR.kind (ρ : Name → Name) (ι : Nat → Nat) (k : CondKind) (o : ObjId) (c : String) :
    ErrR ρ ι (k.err o c) (k.err (o.ren ρ ι) c) := by
  cases k
  · exact .pre o c
  · exact .post o c
  · exact .inv o c

def renKeys {ν : Type} (ρ : Name → Name) (l : List (Name × ν)) : List (Name × ν) := l.map (fun p => (ρ p.1, p.2))

/-- related interpreter states: `C` relates the evaluator states -/
structure StR (ρ : Name → Name) (C : σ → σ → Prop) (st st' : IState σ) : Prop where
  initialized : st'.initialized = st.initialized
  time : st'.time = st.time
  memory : st'.memory = renameMemory ρ st.memory
  config : st'.config = st.config.map ρ
  entryTime : st'.entryTime = renKeys ρ st.entryTime
  idleTime : st'.idleTime = renKeys ρ st.idleTime
  sentEvents : st'.sentEvents = st.sentEvents
  intQ : st'.intQ = st.intQ
  extQ : st'.extQ = st.extQ
  listeners : st'.listeners = st.listeners
  ctx : C st.ctx st'.ctx

/-- every name the state mentions is one of the names in play -/
structure GoodSt (S : Name → Prop) (st : IState σ) : Prop where
  config : ∀ x ∈ st.config, S x
  memK : ∀ p ∈ st.memory, S p.1
  memV : ∀ p ∈ st.memory, ∀ x ∈ p.2, S x
  entryK : ∀ p ∈ st.entryTime, S p.1
  idleK : ∀ p ∈ st.idleTime, S p.1

/-- what a listener queues goes to the external queues of both runs alike -/
theorem StR.extQ_fold {ρ : Name → Name} {C : σ → σ → Prop} {st st' : IState σ} (h : StR ρ C st st') (qs : List Event) :
    StR ρ C { st with extQ := qs.foldl (fun q e => queueInsert (st.time + e.delay) e q) st.extQ }
      { st' with extQ := qs.foldl (fun q e => queueInsert (st'.time + e.delay) e q) st'.extQ } :=
  { h with extQ := by simp only [h.extQ, h.time] }

theorem GoodSt.frame {S : Name → Prop} {st st' : IState σ} (h : GoodSt S st) (hc : st'.config = st.config)
    (hm : st'.memory = st.memory) (he : st'.entryTime = st.entryTime) (hi : st'.idleTime = st.idleTime) :
    GoodSt S st' :=
  ⟨hc ▸ h.config, hm ▸ h.memK, hm ▸ h.memV, he ▸ h.entryK, hi ▸ h.idleK⟩

def RSR (ρ : Name → Name) (ι : Nat → Nat) (C : σ → σ → Prop) (rs rs' : RS σ ω) : Prop :=
  StR ρ C rs.st rs'.st ∧ rs'.world = rs.world ∧ List.Forall₂ (EffR ρ ι) rs.eff rs'.eff

/-- related outcomes: both return related values, or both raise related exceptions; related and
    good states afterwards in either case -/
def OutR (ρ : Name → Name) (ι : Nat → Nat) (C : σ → σ → Prop) (S : Name → Prop) {α α' : Type} (Rv : α → α' → Prop) :
    Except Err α × RS σ ω → Except Err α' × RS σ ω → Prop
  | (.ok a, s), (.ok a', s') => Rv a a' ∧ RSR ρ ι C s s' ∧ GoodSt S s.st
  | (.error e, s), (.error e', s') => ErrR ρ ι e e' ∧ RSR ρ ι C s s' ∧ GoodSt S s.st
  | _, _ => False

theorem OutR.cases {ρ : Name → Name} {ι : Nat → Nat} {C : σ → σ → Prop} {S : Name → Prop} {α α' : Type} {Rv : α → α' → Prop}
    {x : Except Err α × RS σ ω} {x' : Except Err α' × RS σ ω} (h : OutR ρ ι C S Rv x x') :
    (∃ a a' s s', x = (.ok a, s) ∧ x' = (.ok a', s') ∧ Rv a a' ∧ RSR ρ ι C s s' ∧ GoodSt S s.st) ∨
    (∃ e e' s s', x = (.error e, s) ∧ x' = (.error e', s') ∧ ErrR ρ ι e e' ∧ RSR ρ ι C s s' ∧ GoodSt S s.st) := by
  obtain ⟨r, s⟩ := x
  obtain ⟨r', s'⟩ := x'
  cases r <;> cases r'
  · exact .inr ⟨_, _, s, s', rfl, rfl, h⟩
  · exact False.elim h
  · exact False.elim h
  · exact .inl ⟨_, _, s, s', rfl, rfl, h⟩

/-- `f'` (on the relabelled statechart) does what `f` does, relabelled -/
def EqvM (ρ : Name → Name) (ι : Nat → Nat) (C : σ → σ → Prop) (S : Name → Prop) {α α' : Type} (Rv : α → α' → Prop)
    (f : M σ ω α) (f' : M σ ω α') : Prop :=
  ∀ rs rs', RSR ρ ι C rs rs' → GoodSt S rs.st → OutR ρ ι C S Rv (f rs) (f' rs')

section Logic
variable {ρ : Name → Name} {ι : Nat → Nat} {C : σ → σ → Prop} {S : Name → Prop}
variable {α α' β β' : Type}

theorem EqvM.pure {Rv : α → α' → Prop} {a : α} {a' : α'} (h : Rv a a') :
    EqvM ρ ι C S Rv (M.pure a : M σ ω α) (M.pure a') :=
  fun _ _ hr hg => ⟨h, hr, hg⟩

theorem EqvM.throw {Rv : α → α' → Prop} {e e' : Err} (h : ErrR ρ ι e e') :
    EqvM ρ ι C S Rv (M.throw e : M σ ω α) (M.throw e') :=
  fun _ _ hr hg => ⟨h, hr, hg⟩

theorem EqvM.bind {Rv : α → α' → Prop} {Rw : β → β' → Prop} {f : M σ ω α} {f' : M σ ω α'}
    {g : α → M σ ω β} {g' : α' → M σ ω β'}
    (hf : EqvM ρ ι C S Rv f f') (hg : ∀ a a', Rv a a' → EqvM ρ ι C S Rw (g a) (g' a')) :
    EqvM ρ ι C S Rw (M.bind f g) (M.bind f' g') := by
  intro rs rs' hr hgood
  rcases (hf rs rs' hr hgood).cases with ⟨a, a', s, s', e, e', hv, hs, hgd⟩ | ⟨_, _, s, s', e, e', h⟩
  · simp only [M.bind, e, e']
    exact hg a a' hv s s' hs hgd
  · simp only [M.bind, e, e']
    exact h

theorem EqvM.get : EqvM ρ ι C S (fun st st' => StR ρ C st st' ∧ GoodSt S st) (M.get : M σ ω _) M.get :=
  fun _ _ hr hg => ⟨⟨hr.1, hg⟩, hr, hg⟩

theorem EqvM.modify (f f' : IState σ → IState σ)
    (h : ∀ st st', StR ρ C st st' → GoodSt S st → StR ρ C (f st) (f' st') ∧ GoodSt S (f st)) :
    EqvM ρ ι C S (fun _ _ => True) (M.modify f : M σ ω Unit) (M.modify f') := by
  intro rs rs' hr hg
  obtain ⟨h1, h2⟩ := h rs.st rs'.st hr.1 hg
  exact ⟨trivial, ⟨h1, hr.2.1, hr.2.2⟩, h2⟩

theorem EqvM.emit {e e' : Effect} (h : EffR ρ ι e e') :
    EqvM ρ ι C S (fun _ _ => True) (M.emit e : M σ ω Unit) (M.emit e') := by
  intro rs rs' hr hg
  refine ⟨trivial, ⟨hr.1, hr.2.1, ?_⟩, hg⟩
  exact List.rel_append hr.2.2 (List.Forall₂.cons h List.Forall₂.nil)

theorem EqvM.forEach {γ γ' : Type} {Rg : γ → γ' → Prop} {f : γ → M σ ω Unit} {f' : γ' → M σ ω Unit}
    (hf : ∀ x x', Rg x x' → EqvM ρ ι C S (fun _ _ => True) (f x) (f' x')) :
    ∀ (l : List γ) (l' : List γ'), List.Forall₂ Rg l l' →
      EqvM ρ ι C S (fun _ _ => True) (M.forEach f l) (M.forEach f' l')
  | [], _, h => by cases h; exact EqvM.pure trivial
  | x :: xs, _, h => by
    cases h with
    | cons hx hxs => exact EqvM.bind (hf _ _ hx) (fun _ _ _ => EqvM.forEach hf xs _ hxs)

theorem EqvM.mono {Rv Rv' : α → α' → Prop} {f : M σ ω α} {f' : M σ ω α'} (h : EqvM ρ ι C S Rv f f')
    (hm : ∀ a a', Rv a a' → Rv' a a') : EqvM ρ ι C S Rv' f f' := by
  intro rs rs' hr hg
  rcases (h rs rs' hr hg).cases with ⟨_, _, _, _, e, e', hv, hs⟩ | ⟨_, _, _, _, e, e', hs⟩
  · rw [e, e']; exact ⟨hm _ _ hv, hs⟩
  · rw [e, e']; exact hs

end Logic

def Obj.owner : Obj → Name
  | .state s => s.name
  | .trans t => t.source

def ExecKind.owner : ExecKind → Name
  | .onEntry s => s.name
  | .onExit s => s.name
  | .action t => t.source

/-- an object of the statechart -/
def ObjOf (c : Chart) : Obj → Prop
  | .state s => s ∈ c.states
  | .trans t => t ∈ c.transitions

/-- a piece of executable code of the statechart -/
def ExecOf (c : Chart) : ExecKind → Prop
  | .onEntry s => s ∈ c.states
  | .onExit s => s ∈ c.states
  | .action t => t ∈ c.transitions

/-- `env'` runs the relabelled statechart, and neither the evaluators nor the listeners can tell — as far
    as the guards, conditions and code *of the statechart* go -/
structure EnvR (ρ : Name → Name) (ι : Nat → Nat) (C : σ → σ → Prop) (S : Name → Prop) (env env' : Env σ ω) : Prop where
  ok : RenOK S ρ
  ren : IsRen ρ ι env.chart env'.chart
  names : NamesIn S env.chart
  initial : ∀ s ∈ env.chart.states, ∀ i, s.initial = some i → S i
  ignore : env'.ignoreContract = env.ignoreContract
  fuel : env'.stabFuel = env.stabFuel
  guard : ∀ st st' t ev, StR ρ C st st' → GoodSt S st → S t.source → t ∈ env.chart.transitions →
    env'.E.guard st' (t.relabel ρ ι) ev = env.E.guard st t ev
  cond : ∀ st st' kind obj code ev, StR ρ C st st' → GoodSt S st → ObjOf env.chart obj → code ∈ obj.conds kind →
    env'.E.cond st' kind (obj.ren ρ ι) code ev = env.E.cond st kind obj code ev
  exec : ∀ st st' k ev, StR ρ C st st' → GoodSt S st → S k.owner → ExecOf env.chart k →
    (env'.E.exec st' (k.ren ρ ι) ev).2 = (env.E.exec st k ev).2 ∧
      C (env.E.exec st k ev).1 (env'.E.exec st' (k.ren ρ ι) ev).1
  freeze : ∀ a a' obj, ObjOf env.chart obj → C a a' → C (env.E.freeze a obj) (env'.E.freeze a' (obj.ren ρ ι))
  deliver : ∀ l m m' t w, MetaR ρ m m' → env'.deliver l m' t w = env.deliver l m t w

section Prims
variable {ρ : Name → Name} {ι : Nat → Nat} {C : σ → σ → Prop} {S : Name → Prop}
variable {env env' : Env σ ω} (h : EnvR ρ ι C S env env')
include h

theorem eqv_callListener {m m' : Event} (hm : MetaR ρ m m') (l : Nat) :
    EqvM ρ ι C S (fun _ _ => True) (callListener env m l) (callListener env' m' l) := by
  intro rs rs' hr hg
  unfold callListener
  have e : env'.deliver l m' rs'.st.time rs'.world = env.deliver l m rs.st.time rs.world := by
    rw [hr.1.time, hr.2.1]; exact h.deliver l m m' _ _ hm
  simp only [e]
  simp only [foldl_extQ_eq]
  cases hres : (env.deliver l m rs.st.time rs.world).1 with
  | ok u => exact ⟨trivial, ⟨hr.1.extQ_fold _, rfl, hr.2.2⟩, hg.frame rfl rfl rfl rfl⟩
  | error e => exact ⟨.same e, ⟨hr.1.extQ_fold _, rfl, hr.2.2⟩, hg.frame rfl rfl rfl rfl⟩

theorem eqv_raiseMeta {m m' : Event} (hm : MetaR ρ m m') :
    EqvM ρ ι C S (fun _ _ => True) (raiseMeta env m) (raiseMeta env' m') := by
  unfold raiseMeta
  apply EqvM.bind (EqvM.emit (.metaEv m m' hm))
  intro _ _ _
  apply EqvM.bind EqvM.get
  intro st st' hst
  rw [hst.1.listeners]
  apply EqvM.forEach (Rg := Eq) (fun l l' e => e ▸ eqv_callListener h hm l)
  exact List.forall₂_same.2 (fun _ _ => rfl)

omit h in
theorem eqv_queueEvent (i : Bool) (e : Event) :
    EqvM ρ ι C S (fun _ _ => True) (queueEvent (σ := σ) (ω := ω) i e) (queueEvent i e) := by
  unfold queueEvent
  apply EqvM.modify
  intro st st' h1 h2
  cases i
  · exact ⟨{ h1 with extQ := by simp only [Bool.false_eq_true, if_false, h1.extQ, h1.time] },
      h2.frame rfl rfl rfl rfl⟩
  · exact ⟨{ h1 with intQ := by simp only [if_true, h1.intQ, h1.time] },
      h2.frame rfl rfl rfl rfl⟩

theorem eqv_raiseSent (s : Sent) : EqvM ρ ι C S (fun _ _ => True) (raiseSent env s) (raiseSent env' s) := by
  cases s with
  | notify m => exact eqv_raiseMeta h (.same m)
  | «internal» e =>
    unfold raiseSent
    apply EqvM.bind (eqv_queueEvent true e)
    intro _ _ _
    apply EqvM.bind (eqv_raiseMeta h (.same _))
    intro _ _ _
    split
    · exact eqv_raiseMeta h (.same _)
    · exact EqvM.pure trivial

theorem eqv_raiseAll (sent : List Sent) : EqvM ρ ι C S (fun _ _ => True) (raiseAll env sent) (raiseAll env' sent) := by
  unfold raiseAll
  apply EqvM.forEach (Rg := Eq)
  · intro x x' e
    subst e
    apply EqvM.bind (eqv_raiseSent h x)
    intro _ _ _
    apply EqvM.modify
    intro st st' h1 h2
    exact ⟨{ h1 with sentEvents := by simp only [h1.sentEvents] }, h2.frame rfl rfl rfl rfl⟩
  · exact List.forall₂_same.2 (fun _ _ => rfl)

theorem eqv_evalConds (kind : CondKind) (obj : Obj) (hobj : ObjOf env.chart obj) (ev : Option Event) :
    ∀ (codes : List Code) (i : Nat), (∀ c ∈ codes, c ∈ obj.conds kind) →
      EqvM ρ ι C S (fun _ _ => True) (evalConds env kind obj ev i codes) (evalConds env' kind (obj.ren ρ ι) ev i codes)
  | [], _, _ => EqvM.pure trivial
  | c :: rest, i, hcs => by
    unfold evalConds
    apply EqvM.bind EqvM.get
    intro st st' hst
    have e : env'.E.cond st' kind (obj.ren ρ ι) c ev = env.E.cond st kind obj c ev :=
      h.cond st st' kind obj c ev hst.1 hst.2 hobj (hcs c (by simp))
    simp only [e, Obj.ren_id]
    apply EqvM.bind (EqvM.emit (.cond kind obj.id i ev _))
    intro _ _ _
    cases env.E.cond st kind obj c ev with
    | none => exact EqvM.throw (.same _)
    | some b =>
      cases b with
      | false => exact EqvM.throw (ErrR.kind ρ ι kind obj.id c.src)
      | true => exact eqv_evalConds kind obj hobj ev rest (i + 1) (fun x hx => hcs x (by simp [hx]))

theorem eqv_evalContract (kind : CondKind) (obj : Obj) (hobj : ObjOf env.chart obj) (ev : Option Event) :
    EqvM ρ ι C S (fun _ _ => True) (evalContract env kind obj ev) (evalContract env' kind (obj.ren ρ ι) ev) := by
  unfold evalContract
  rw [h.ignore]
  cases env.ignoreContract with
  | true => exact EqvM.pure trivial
  | false =>
    simp only [Obj.ren_conds]
    apply EqvM.bind (Rv := fun _ _ => True)
    · cases kind == .pre && (!(obj.conds .inv).isEmpty || !(obj.conds .post).isEmpty) with
      | true =>
        rw [if_pos rfl, if_pos rfl]
        apply EqvM.modify
        intro st st' h1 h2
        exact ⟨{ h1 with ctx := h.freeze _ _ obj hobj h1.ctx }, h2.frame rfl rfl rfl rfl⟩
      | false => exact EqvM.pure trivial
    · intro _ _ _
      exact eqv_evalConds h kind obj hobj ev _ 0 (fun _ hc => hc)

theorem eqv_stateObj (n : Name) (hn : S n) :
    EqvM ρ ι C S (fun s s' => s' = s.rename ρ ∧ s ∈ env.chart.states) (stateObj env n) (stateObj env' (ρ n)) := by
  unfold stateObj
  rw [stateFor_mapNames h.ok env.chart h.names h.ren n hn]
  cases hs : env.chart.stateFor n with
  | none => exact EqvM.throw (.same _)
  | some s => exact EqvM.pure ⟨rfl, List.mem_of_find?_eq_some hs⟩

theorem eqv_stateObjs : ∀ (ns : List Name), (∀ n ∈ ns, S n) →
    EqvM ρ ι C S (fun l l' => l' = l.map (StateDef.rename ρ) ∧ ∀ s ∈ l, s ∈ env.chart.states)
      (stateObjs env ns) (stateObjs env' (ns.map ρ))
  | [], _ => EqvM.pure ⟨rfl, by simp⟩
  | n :: ns, hn => by
    simp only [List.map_cons, stateObjs]
    apply EqvM.bind (eqv_stateObj h n (hn n (by simp)))
    intro s s' ⟨hs, hmem⟩
    apply EqvM.bind (eqv_stateObjs ns (fun x hx => hn x (by simp [hx])))
    intro l l' ⟨hl, hmems⟩
    refine EqvM.pure ⟨by simp [hs, hl], ?_⟩
    intro x hx
    rcases List.mem_cons.1 hx with e | hx
    · exact e ▸ hmem
    · exact hmems x hx

theorem eqv_runCode (k : ExecKind) (hk : S k.owner) (hof : ExecOf env.chart k) (ev : Option Event) :
    EqvM ρ ι C S Eq (runCode env k ev) (runCode env' (k.ren ρ ι) ev) := by
  unfold runCode
  apply EqvM.bind EqvM.get
  intro st st' hst
  obtain ⟨e1, e2⟩ := h.exec st st' k ev hst.1 hst.2 hk hof
  apply EqvM.bind (Rv := fun _ _ => True)
  · apply EqvM.modify
    intro s s' h1 h2
    exact ⟨{ h1 with ctx := e2 }, h2.frame rfl rfl rfl rfl⟩
  · intro _ _ _
    rw [e1]
    cases (env.E.exec st k ev).2 with
    | none => exact EqvM.throw (.same _)
    | some sent => exact EqvM.pure rfl

end Prims

section AssocRen
variable {ρ : Name → Name} {S : Name → Prop} (hρ : RenOK S ρ)
include hρ

/-- `dict[k] = v` under the substitution of the keys (and a map `g` of the values) -/
theorem assocSet_ren {ν ν' : Type} (g : ν → ν') (k : Name) (v : ν) (hk : S k) : ∀ (l : List (Name × ν)), (∀ p ∈ l, S p.1) →
    (assocSet k v l).map (fun p => (ρ p.1, g p.2)) = assocSet (ρ k) (g v) (l.map (fun p => (ρ p.1, g p.2)))
  | [], _ => rfl
  | (k', v') :: r, hl => by
    simp only [assocSet, List.map_cons, hρ.beq k' k (hl (k', v') (by simp)) hk]
    split
    · rfl
    · rw [List.map_cons, assocSet_ren g k v hk r (fun p hp => hl p (by simp [hp]))]

theorem filter_ne_map (n : Name) (hn : S n) : ∀ (l : List Name), (∀ x ∈ l, S x) →
    (l.map ρ).filter (fun x => x != ρ n) = (l.filter (fun x => x != n)).map ρ := by
  intro l hl
  apply filter_map_comm
  intro x hx
  simp only [bne, hρ.beq x n (hl x hx) hn]

end AssocRen

structure GoodStep (S : Name → Prop) (c : Chart) (m : Micro) : Prop where
  entered : ∀ x ∈ m.entered, S x
  exited : ∀ x ∈ m.exited, S x
  trans : ∀ t, m.transition = some t → S t.source ∧ t ∈ c.transitions

section Steps
variable {ρ : Name → Name} {ι : Nat → Nat} {C : σ → σ → Prop} {S : Name → Prop}
variable {env env' : Env σ ω} (h : EnvR ρ ι C S env env')
include h

theorem memoryOf_ren (cfg0 : List Name) (hcfg : ∀ x ∈ cfg0, S x) (s : StateDef) (hs : S s.name) (ch : Name) (hch : S ch) :
    memoryOf env'.chart (cfg0.map ρ) (s.rename ρ) (ρ ch) =
      (match memoryOf env.chart cfg0 s ch with
       | .ok o => .ok (o.map (List.map ρ))
       | .error e => .error e) := by
  unfold memoryOf
  rw [kindOf_mapNames h.ok env.chart h.names h.ren ch hch]
  have hname : (s.rename ρ).name = ρ s.name := rfl
  cases env.chart.kindOf ch with
  | none => rfl
  | some k =>
    cases k with
    | deep =>
      simp only [hname, descendants_mapNames h.ok env.chart h.names h.ren s.name hs]
      rw [filter_map_comm ρ (fun x => (env.chart.descendants s.name).contains x) _ cfg0
        (fun x hx => h.ok.contains _ x (fun y hy => h.names.descendants_in s.name y hy) (hcfg x hx))]
      simp only [List.length_map]
      split <;> rfl
    | shallow =>
      simp only [hname, childrenFor_mapNames h.ok env.chart h.names h.ren s.name hs]
      rw [filter_map_comm ρ (fun x => (env.chart.childrenFor s.name).contains x) _ cfg0
        (fun x hx => h.ok.contains _ x (fun y hy => h.names.childrenFor_in s.name y hy) (hcfg x hx))]
      simp only [List.length_map]
      split <;> rfl
    | basic => rfl
    | compound => rfl
    | orthogonal => rfl
    | final => rfl

omit h in
theorem memoryOf_sub' (c : Chart) (cfg0 : List Name) (s : StateDef) (ch : Name) (a : List Name)
    (hm : memoryOf c cfg0 s ch = .ok (some a)) : ∀ x ∈ a, x ∈ cfg0 := by
  unfold memoryOf at hm
  split at hm
  · split at hm
    · cases hm
    · simp only [Except.ok.injEq, Option.some.injEq] at hm
      intro x hx; rw [← hm] at hx; exact (List.mem_filter.1 hx).1
  · split at hm
    · cases hm
    · simp only [Except.ok.injEq, Option.some.injEq] at hm
      intro x hx; rw [← hm] at hx; exact (List.mem_filter.1 hx).1
  · cases hm
  · cases hm

theorem eqv_saveMemory (cfg0 : List Name) (hcfg : ∀ x ∈ cfg0, S x) (s : StateDef) (hs : S s.name) :
    ∀ (chs : List Name), (∀ x ∈ chs, S x) →
      EqvM ρ ι C S (fun _ _ => True) (saveMemory env cfg0 s chs) (saveMemory env' (cfg0.map ρ) (s.rename ρ) (chs.map ρ))
  | [], _ => EqvM.pure trivial
  | ch :: rest, hchs => by
    have hch : S ch := hchs ch (by simp)
    simp only [List.map_cons, saveMemory]
    rw [memoryOf_ren h cfg0 hcfg s hs ch hch]
    cases hm : memoryOf env.chart cfg0 s ch with
    | error e => exact EqvM.throw (.same e)
    | ok o =>
      cases o with
      | none => exact eqv_saveMemory cfg0 hcfg s hs rest (fun x hx => hchs x (by simp [hx]))
      | some a =>
        simp only [Option.map_some]
        apply EqvM.bind (Rv := fun _ _ => True)
        · apply EqvM.modify
          intro st st' h1 h2
          refine ⟨{ h1 with memory := ?_ }, ⟨h2.config, ?_, ?_, h2.entryK, h2.idleK⟩⟩
          · simp only [h1.memory]
            exact (assocSet_ren h.ok (List.map ρ) ch a hch _ h2.memK).symm
          · exact forall_assocSet (P := fun p => S p.1) ch a hch _ h2.memK
          · exact forall_assocSet (P := fun p => ∀ x ∈ p.2, S x) ch a
              (fun x hx => hcfg x (memoryOf_sub' env.chart cfg0 s ch a hm x hx)) _ h2.memV
        · intro _ _ _
          exact eqv_saveMemory cfg0 hcfg s hs rest (fun x hx => hchs x (by simp [hx]))

end Steps

section Steps2
variable {ρ : Name → Name} {ι : Nat → Nat} {C : σ → σ → Prop} {S : Name → Prop}
variable {env env' : Env σ ω} (h : EnvR ρ ι C S env env')
include h

theorem eqv_exitState (cfg0 : List Name) (hcfg : ∀ x ∈ cfg0, S x) (ev : Option Event) (step step' : Micro)
    (hev : step'.event = step.event) (s : StateDef) (hs : S s.name) (hmem : s ∈ env.chart.states) :
    EqvM ρ ι C S Eq (exitState env cfg0 step s) (exitState env' (cfg0.map ρ) step' (s.rename ρ)) := by
  unfold exitState
  have hname : (s.rename ρ).name = ρ s.name := rfl
  have hkind : (s.rename ρ).kind = s.kind := rfl
  simp only [hname, hkind, hev]
  apply EqvM.bind (EqvM.emit (.onExit s.name)); intro _ _ _
  apply EqvM.bind (eqv_runCode h (.onExit s) hs hmem none); intro sent sent' hsent
  subst hsent
  apply EqvM.bind (Rv := fun _ _ => True)
  · split
    · rw [childrenFor_mapNames h.ok env.chart h.names h.ren s.name hs]
      exact eqv_saveMemory h cfg0 hcfg s hs _ (fun x hx => h.names.childrenFor_in s.name x hx)
    · exact EqvM.pure trivial
  intro _ _ _
  apply EqvM.bind EqvM.get; intro st st' hst
  apply EqvM.bind (Rv := fun _ _ => True)
  · rw [hst.1.config, h.ok.contains st.config s.name hst.2.config hs]
    split
    · exact EqvM.throw (.same _)
    · exact EqvM.pure trivial
  intro _ _ _
  apply EqvM.bind (Rv := fun _ _ => True)
  · apply EqvM.modify
    intro a a' h1 h2
    refine ⟨{ h1 with config := ?_ }, ⟨?_, h2.memK, h2.memV, h2.entryK, h2.idleK⟩⟩
    · simp only [h1.config]
      exact filter_ne_map h.ok s.name hs a.config h2.config
    · intro x hx; exact h2.config x (List.mem_filter.1 hx).1
  intro _ _ _
  apply EqvM.bind (eqv_evalContract h .post (.state s) hmem step.event); intro _ _ _
  apply EqvM.bind (eqv_raiseMeta h (.exited s.name)); intro _ _ _
  exact EqvM.pure rfl

theorem eqv_enterState (step step' : Micro) (hev : step'.event = step.event) (s : StateDef) (hs : S s.name)
    (hmem : s ∈ env.chart.states) :
    EqvM ρ ι C S Eq (enterState env step s) (enterState env' step' (s.rename ρ)) := by
  unfold enterState
  have hname : (s.rename ρ).name = ρ s.name := rfl
  simp only [hname, hev]
  apply EqvM.bind (eqv_evalContract h .pre (.state s) hmem step.event); intro _ _ _
  apply EqvM.bind (EqvM.emit (.onEntry s.name)); intro _ _ _
  apply EqvM.bind (eqv_runCode h (.onEntry s) hs hmem none); intro sent sent' hsent
  subst hsent
  apply EqvM.bind (Rv := fun _ _ => True)
  · apply EqvM.modify
    intro a a' h1 h2
    refine ⟨{ h1 with config := ?_, entryTime := ?_, idleTime := ?_ }, ⟨?_, h2.memK, h2.memV, ?_, ?_⟩⟩
    · simp only [h1.config, h.ok.contains a.config s.name h2.config hs]
      split
      · rfl
      · simp
    · simp only [h1.entryTime, h1.time]
      exact (assocSet_ren h.ok id s.name a.time hs _ h2.entryK).symm
    · simp only [h1.idleTime, h1.time]
      exact (assocSet_ren h.ok id s.name a.time hs _ h2.idleK).symm
    · intro x hx
      split at hx
      · exact h2.config x hx
      · rcases List.mem_append.1 hx with hx | hx
        · exact h2.config x hx
        · simp at hx; rw [hx]; exact hs
    · exact forall_assocSet (P := fun p => S p.1) _ _ hs _ h2.entryK
    · exact forall_assocSet (P := fun p => S p.1) _ _ hs _ h2.idleK
  intro _ _ _
  apply EqvM.bind (eqv_raiseMeta h (.entered s.name)); intro _ _ _
  exact EqvM.pure rfl

theorem eqv_fireTransition (step step' : Micro) (hev : step'.event = step.event) (t : Trans) (ht : S t.source)
    (hmem : t ∈ env.chart.transitions) :
    EqvM ρ ι C S Eq (fireTransition env step t) (fireTransition env' step' (t.relabel ρ ι)) := by
  unfold fireTransition
  have hid : (t.relabel ρ ι).id = ι t.id := rfl
  have hsrc : (t.relabel ρ ι).source = ρ t.source := rfl
  have htg : (t.relabel ρ ι).target = t.target.map ρ := rfl
  simp only [hid, hsrc, htg, hev]
  apply EqvM.bind (eqv_evalContract h .pre (.trans t) hmem step.event); intro _ _ _
  apply EqvM.bind (eqv_evalContract h .inv (.trans t) hmem step.event); intro _ _ _
  apply EqvM.bind (EqvM.emit (.action t.id step.event)); intro _ _ _
  apply EqvM.bind (eqv_runCode h (.action t) ht hmem step.event); intro sent sent' hsent
  subst hsent
  apply EqvM.bind (eqv_evalContract h .post (.trans t) hmem step.event); intro _ _ _
  apply EqvM.bind (eqv_evalContract h .inv (.trans t) hmem step.event); intro _ _ _
  apply EqvM.bind (Rv := fun _ _ => True)
  · apply EqvM.modify
    intro a a' h1 h2
    refine ⟨{ h1 with idleTime := ?_ }, ⟨h2.config, h2.memK, h2.memV, h2.entryK, ?_⟩⟩
    · simp only [h1.idleTime, h1.time]
      exact (assocSet_ren h.ok id t.source a.time ht _ h2.idleK).symm
    · exact forall_assocSet (P := fun p => S p.1) _ _ ht _ h2.idleK
  intro _ _ _
  apply EqvM.bind (eqv_raiseMeta h (.processed t.source t.target step.event)); intro _ _ _
  exact EqvM.pure rfl

omit h in
theorem eqv_collect {γ γ' : Type} {Rg : γ → γ' → Prop} {f : γ → M σ ω (List Sent)} {f' : γ' → M σ ω (List Sent)}
    (hf : ∀ x x', Rg x x' → EqvM ρ ι C S Eq (f x) (f' x')) :
    ∀ (l : List γ) (l' : List γ'), List.Forall₂ Rg l l' → EqvM ρ ι C S Eq (collect f l) (collect f' l')
  | [], _, hl => by cases hl; exact EqvM.pure rfl
  | x :: xs, _, hl => by
    cases hl with
    | cons hx hxs =>
      unfold collect
      apply EqvM.bind (hf _ _ hx); intro a a' ha
      apply EqvM.bind (eqv_collect hf xs _ hxs); intro b b' hb
      exact EqvM.pure (by rw [ha, hb])

theorem eqv_applyStep (step : Micro) (hg : GoodStep S env.chart step) :
    EqvM ρ ι C S (fun m m' => m' = m.rename ρ ι ∧ GoodStep S env.chart m)
      (applyStep env step) (applyStep env' (step.rename ρ ι)) := by
  unfold applyStep
  have hent : (step.rename ρ ι).entered = step.entered.map ρ := rfl
  have hexi : (step.rename ρ ι).exited = step.exited.map ρ := rfl
  have htr : (step.rename ρ ι).transition = step.transition.map (Trans.relabel ρ ι) := rfl
  have hev : (step.rename ρ ι).event = step.event := rfl
  simp only [hent, hexi, htr]
  apply EqvM.bind (eqv_stateObjs h step.entered hg.entered); intro entered entered' ⟨he, henm⟩
  apply EqvM.bind (eqv_stateObjs h step.exited hg.exited); intro exited exited' ⟨hx, hxm⟩
  apply EqvM.bind EqvM.get; intro st0 st0' hst0
  apply EqvM.bind (Rv := Eq)
  · rw [hst0.1.config, hx]
    apply eqv_collect (Rg := fun s s' => s' = s.rename ρ ∧ s ∈ env.chart.states)
    · intro s s' ⟨e, hm⟩
      subst e
      exact eqv_exitState h st0.config hst0.2.config step.event step _ hev s (h.names.states s hm) hm
    · exact List.forall₂_map_right_iff.2 (List.forall₂_same.2 (fun s hs => ⟨rfl, hxm s hs⟩))
  intro s1 s1' e1; subst e1
  apply EqvM.bind (Rv := Eq)
  · cases ht : step.transition with
    | none => exact EqvM.pure rfl
    | some t => exact eqv_fireTransition h step _ hev t (hg.trans t ht).1 (hg.trans t ht).2
  intro s2 s2' e2; subst e2
  apply EqvM.bind (Rv := Eq)
  · rw [he]
    apply eqv_collect (Rg := fun s s' => s' = s.rename ρ ∧ s ∈ env.chart.states)
    · intro s s' ⟨e, hm⟩
      subst e
      exact eqv_enterState h step _ hev s (h.names.states s hm) hm
    · exact List.forall₂_map_right_iff.2 (List.forall₂_same.2 (fun s hs => ⟨rfl, henm s hs⟩))
  intro s3 s3' e3; subst e3
  apply EqvM.bind (eqv_raiseAll h _); intro _ _ _
  exact EqvM.pure ⟨rfl, hg.entered, hg.exited, hg.trans⟩

end Steps2

/-! ### what is selected and planned mentions names in play only -/

section Good
variable {S : Name → Prop}

theorem createStep_good (c : Chart) (hc : NamesIn S c) (cfg : List Name) (ev : Option Event) (t : Trans)
    (ht : t ∈ c.transitions) : GoodStep S c (createStep c cfg ev t) := by
  have hs : S t.source := hc.transS t ht
  unfold createStep
  cases hg : t.target with
  | none => exact ⟨by simp, by simp, fun u hu => by simp at hu; rw [← hu]; exact ⟨hs, ht⟩⟩
  | some tg =>
    have htg : S tg := hc.transT t ht tg hg
    refine ⟨?_, ?_, fun u hu => by simp at hu; rw [← hu]; exact ⟨hs, ht⟩⟩
    · intro x hx
      simp only [List.mem_append, List.mem_reverse, List.mem_singleton] at hx
      rcases hx with hx | hx
      · exact hc.ancestors_in tg x (List.takeWhile_subset _ hx)
      · rw [hx]; exact htg
    · intro x hx
      simp only [List.mem_append] at hx
      rcases hx with hx | hx
      · exact hc.descendants_in _ x ((mem_isort _ _ x).1 (List.mem_filter.1 hx).1)
      · split at hx
        · simp at hx; rw [hx]; exact hc.lastBefore_in _ hs _
        · simp at hx

theorem GoodStep.of_lists {c : Chart} {E X : List Name} (hE : ∀ x ∈ E, S x) (hX : ∀ x ∈ X, S x) :
    GoodStep S c { entered := E, exited := X } :=
  ⟨hE, hX, fun _ h => nomatch h⟩

theorem leafStep_good (c : Chart) (hc : NamesIn S c) (hi : ∀ s ∈ c.states, ∀ i, s.initial = some i → S i)
    (memory : List (Name × List Name)) (hmv : ∀ p ∈ memory, ∀ x ∈ p.2, S x) (leaf : Name) (hleaf : S leaf)
    (m : Micro) (hm : leafStep c memory leaf = some m) : GoodStep S c m := by
  unfold leafStep at hm
  cases hs : c.stateFor leaf with
  | none => rw [hs] at hm; cases hm
  | some s =>
    have hsm : s ∈ c.states := List.mem_of_find?_eq_some hs
    rw [hs] at hm
    dsimp only at hm
    by_cases h1 : (s.kind == .final && c.parentFor leaf == c.root) = true
    · rw [if_pos h1] at hm
      cases hm
      refine .of_lists (fun _ h => nomatch h) (fun x hx => ?_)
      rcases List.mem_cons.1 hx with rfl | hx
      · exact hleaf
      · exact hc.root_in x (Option.mem_toList.1 hx)
    rw [if_neg h1] at hm
    by_cases h2 : s.kind.isHistory = true
    · rw [if_pos h2] at hm
      cases hm
      refine .of_lists (fun x hx => ?_) (fun x hx => List.mem_singleton.1 hx ▸ hleaf)
      have hx := (mem_isort _ _ x).1 hx
      split at hx
      · next k l hf => exact hmv _ (List.mem_of_find?_eq_some hf) x hx
      · exact hc.memory s hsm x (Option.mem_toList.1 hx)
    rw [if_neg h2] at hm
    by_cases h3 : (s.kind == .orthogonal && !(c.childrenFor leaf).isEmpty) = true
    · rw [if_pos h3] at hm
      cases hm
      exact .of_lists (fun x hx => hc.childrenFor_in leaf x ((mem_isort _ _ x).1 hx)) (fun _ h => nomatch h)
    rw [if_neg h3] at hm
    by_cases h4 : (s.kind == .compound && s.initial.isSome) = true
    · rw [if_pos h4] at hm
      cases hm
      exact .of_lists (fun x hx => hi s hsm x (Option.mem_toList.1 hx)) (fun _ h => nomatch h)
    · rw [if_neg h4] at hm
      cases hm

theorem completeStep_good (c : Chart) (hc : NamesIn S c) (cfg : List Name) (n : Name) (m : Micro)
    (hm : completeStep c cfg n = some m) : GoodStep S c m := by
  unfold completeStep at hm
  split at hm
  · dsimp only at hm
    split at hm
    · cases hm
    · cases hm
      exact .of_lists (fun x hx => hc.childrenFor_in n x (List.mem_filter.1 ((mem_isort _ _ x).1 hx)).1)
        (fun _ h => nomatch h)
  · cases hm

theorem stabilizationStep_good (c : Chart) (hc : NamesIn S c) (hi : ∀ s ∈ c.states, ∀ i, s.initial = some i → S i)
    (memory : List (Name × List Name)) (hmv : ∀ p ∈ memory, ∀ x ∈ p.2, S x) (cfg : List Name) (hcfg : ∀ x ∈ cfg, S x)
    (m : Micro) (hm : stabilizationStep c memory cfg = some m) : GoodStep S c m := by
  unfold stabilizationStep at hm
  split at hm
  · next m' hf =>
    simp only [Option.some.injEq] at hm
    subst hm
    obtain ⟨leaf, hl, hls⟩ := List.exists_of_findSome?_eq_some hf
    have : leaf ∈ cfg := (List.mem_filter.1 ((mem_isort _ _ leaf).1 hl)).1
    exact leafStep_good c hc hi memory hmv leaf (hcfg leaf this) m' hls
  · obtain ⟨n, _, hns⟩ := List.exists_of_findSome?_eq_some hm
    exact completeStep_good c hc cfg n m hns

end Good

section Whole
variable {ρ : Name → Name} {ι : Nat → Nat} {C : σ → σ → Prop} {S : Name → Prop}
variable {env env' : Env σ ω} (h : EnvR ρ ι C S env env')
include h

def MicsR (ρ : Name → Name) (ι : Nat → Nat) (l l' : List Micro) : Prop := l' = l.map (Micro.rename ρ ι)

theorem eqv_stabilize : ∀ n : Nat, EqvM ρ ι C S (MicsR ρ ι) (stabilize env n) (stabilize env' n)
  | 0 => EqvM.throw (.same _)
  | n+1 => by
    unfold stabilize
    apply EqvM.bind EqvM.get; intro st st' hst
    have e := stabilizationStep_rename (ι := ι) h.ok env.chart h.names h.ren st.memory hst.2.memK hst.2.memV
      st.config hst.2.config
    rw [hst.1.memory, hst.1.config, e]
    cases hs : stabilizationStep env.chart st.memory st.config with
    | none => exact EqvM.pure rfl
    | some m =>
      have hg := stabilizationStep_good env.chart h.names h.initial st.memory hst.2.memV st.config hst.2.config m hs
      simp only [Option.map_some]
      apply EqvM.bind (eqv_applyStep h m hg); intro a a' ⟨ha, _⟩
      apply EqvM.bind (eqv_stabilize n); intro r r' hr
      exact EqvM.pure (by rw [MicsR] at *; simp [ha, hr])

theorem eqv_logGuards (st st' : IState σ) (hst : StR ρ C st st') (hgs : GoodSt S st) (ev : Option Event) :
    ∀ (l : List (Trans × Bool)), (∀ p ∈ l, p.1 ∈ env.chart.transitions) →
      EqvM ρ ι C S (fun _ _ => True) (logGuards env st ev l)
        (logGuards env' st' ev (l.map (fun p => (p.1.relabel ρ ι, p.2))))
  | [], _ => EqvM.pure trivial
  | (t, exposed) :: rest, hl => by
    simp only [List.map_cons, logGuards]
    have hm := hl (t, exposed) (by simp)
    have e : env'.E.guard st' (t.relabel ρ ι) (if exposed then ev else none) =
        env.E.guard st t (if exposed then ev else none) :=
      h.guard st st' t _ hst hgs (h.names.transS t hm) hm
    have hid : (t.relabel ρ ι).id = ι t.id := rfl
    simp only [e, hid]
    apply EqvM.bind (EqvM.emit (.guard t.id _ _)); intro _ _ _
    cases env.E.guard st t (if exposed then ev else none) with
    | none => exact EqvM.throw (.same _)
    | some b => exact eqv_logGuards st st' hst hgs ev rest (fun p hp => hl p (by simp [hp]))

theorem guardOk_ren (st st' : IState σ) (hst : StR ρ C st st') (hgs : GoodSt S st) (ev : Option Event) (t : Trans)
    (hm : t ∈ env.chart.transitions) (b : Bool) :
    guardOk env'.E st' ev (t.relabel ρ ι) b = guardOk env.E st ev t b := by
  unfold guardOk
  have hg : (t.relabel ρ ι).guard = t.guard := rfl
  rw [hg]
  cases t.guard with
  | none => rfl
  | some c => simp only [h.guard st st' t _ hst hgs (h.names.transS t hm) hm]

theorem selection_ren (st st' : IState σ) (hst : StR ρ C st st') (hgs : GoodSt S st) :
    peekEvent st' = peekEvent st ∧
    selectTransitions env'.chart st'.config ((peekEvent st').map (fun e => e.name)) (guardOk env'.E st' (peekEvent st')) =
      (selectTransitions env.chart st.config ((peekEvent st).map (fun e => e.name))
        (guardOk env.E st (peekEvent st))).rename ρ ι := by
  have hpeek : peekEvent st' = peekEvent st := by
    unfold peekEvent; rw [hst.intQ, hst.extQ, hst.time]
  rw [hpeek, hst.config]
  exact ⟨rfl, selectTransitions_rename h.ok env.chart h.names h.ren st.config hgs.config _ _ _
    (guardOk_ren h st st' hst hgs (peekEvent st))⟩

theorem planOf_rename (st st' : IState σ) (hst : StR ρ C st st') (hgs : GoodSt S st) :
    planOf env'.chart env'.E st' = (planOf env.chart env.E st).map (List.map (Micro.rename ρ ι)) := by
  obtain ⟨hpeek, hsel⟩ := selection_ren h st st' hst hgs
  have hsub := fun t ht => (selected_enabled env.chart st.config ((peekEvent st).map (fun e => e.name))
    (guardOk env.E st (peekEvent st)) t ht).1
  unfold planOf
  dsimp only
  rw [hsel, hpeek, hst.config]
  generalize selectTransitions env.chart st.config _ _ = sel at hsub ⊢
  have hemp : (sel.rename ρ ι).selected.isEmpty = sel.selected.isEmpty := List.isEmpty_map
  rw [hemp]
  by_cases hem : sel.selected.isEmpty = true
  · rw [if_pos hem, if_pos hem]
    cases peekEvent st <;> rfl
  · rw [if_neg hem, if_neg hem, show (sel.rename ρ ι).selected = sel.selected.map (Trans.relabel ρ ι) from rfl,
      sortTransitions_rename h.ok env.chart h.names h.ren sel.selected hsub]
    cases hso : sortTransitions env.chart sel.selected with
    | error e => rfl
    | ok ts =>
      have htsub : ∀ t ∈ ts, t ∈ env.chart.transitions :=
        fun t ht => hsub t ((sortTransitions_mem env.chart _ ts hso t).mp ht)
      cases ts with
      | nil => rfl
      | cons t r =>
        exact congrArg Except.ok
          (createSteps_rename h.ok env.chart h.names h.ren st.config hgs.config _ (t :: r) htsub)

omit h in
theorem planOf_good {c : Chart} (hc : NamesIn S c) (E : Evaluator σ) (st : IState σ) (ms : List Micro)
    (hp : planOf c E st = .ok ms) : ∀ m ∈ ms, GoodStep S c m := by
  rcases planOf_ok c E st ms hp with (rfl | ⟨e, rfl⟩) | ⟨ts, ev, _, hts, rfl⟩
  · exact fun _ h => nomatch h
  · intro m hm
    rw [List.mem_singleton.1 hm]
    exact ⟨(fun _ h => nomatch h), (fun _ h => nomatch h), (fun _ h => nomatch h)⟩
  · intro m hm
    obtain ⟨t, ht, rfl⟩ := List.mem_map.1 hm
    exact createStep_good c hc st.config _ t
      (selected_enabled _ _ _ _ t ((sortTransitions_mem c _ ts hts t).mp ht)).1

theorem eqv_computeSteps :
    EqvM ρ ι C S (fun l l' => MicsR ρ ι l l' ∧ ∀ m ∈ l, GoodStep S env.chart m) (computeSteps env) (computeSteps env') := by
  intro rs rs' hr hg
  cases hi : rs.st.initialized with
  | false =>
    -- the first call: enter the root
    have e : ∀ (env : Env σ ω) (rs : RS σ ω), rs.st.initialized = false → computeSteps env rs =
        M.bind (M.modify (fun st => { st with initialized := true }))
          (fun _ => M.pure [{ entered := env.chart.root.toList }]) rs := by
      intro env rs hi
      show (if (!rs.st.initialized) = true then _ else _ : M σ ω (List Micro)) rs = _
      rw [hi]; rfl
    rw [e env rs hi, e env' rs' (hr.1.initialized.trans hi)]
    refine EqvM.bind (Rv := fun _ _ => True) ?_ (fun _ _ _ => EqvM.pure ⟨?_, fun m hm => ?_⟩) rs rs' hr hg
    · apply EqvM.modify
      intro a a' h1 h2
      exact ⟨{ h1 with initialized := rfl }, h2.frame rfl rfl rfl rfl⟩
    · rw [MicsR, root_mapNames env.chart h.ren]
      cases env.chart.root <;> rfl
    · rw [List.mem_singleton.1 hm]
      exact .of_lists (fun x hx => h.names.root_in x (Option.mem_toList.1 hx)) (fun _ h => nomatch h)
  | true =>
    obtain ⟨hpeek, hsel⟩ := selection_ren h rs.st rs'.st hr.1 hg
    rw [computeSteps_eq env rs hi, computeSteps_eq env' rs' (hr.1.initialized.trans hi), hpeek,
      show selCalls env'.chart env'.E rs'.st = (selCalls env.chart env.E rs.st).map (fun p => (p.1.relabel ρ ι, p.2)) from
        congrArg SelResult.calls hsel,
      planOf_rename h rs.st rs'.st hr.1 hg]
    refine EqvM.bind (Rv := fun _ _ => True)
      (eqv_logGuards h rs.st rs'.st hr.1 hg _ _ fun p hp =>
        (calls_exposure env.chart rs.st.config _ _ p.1 p.2 hp).1)
      (fun _ _ _ => ?_) rs rs' hr hg
    cases hp : planOf env.chart env.E rs.st with
    | error e => cases e <;> exact EqvM.throw (.same _)
    | ok ms => exact EqvM.pure ⟨rfl, planOf_good h.names env.E rs.st ms hp⟩

theorem eqv_applyAll : ∀ (l : List Micro), (∀ m ∈ l, GoodStep S env.chart m) →
    EqvM ρ ι C S (MicsR ρ ι) (applyAll env l) (applyAll env' (l.map (Micro.rename ρ ι)))
  | [], _ => EqvM.pure rfl
  | m :: rest, hl => by
    simp only [List.map_cons, applyAll]
    apply EqvM.bind (eqv_applyStep h m (hl m (by simp))); intro a a' ⟨ha, _⟩
    rw [h.fuel]
    apply EqvM.bind (eqv_stabilize h env.stabFuel); intro st st' hs
    apply EqvM.bind (eqv_applyAll rest (fun x hx => hl x (by simp [hx]))); intro more more' hm
    exact EqvM.pure (by rw [MicsR] at *; simp [ha, hs, hm])

def MacroStep.rename (ρ : Name → Name) (ι : Nat → Nat) (m : MacroStep) : MacroStep :=
  { m with steps := m.steps.map (Micro.rename ρ ι) }

omit h in
theorem MacroStep.rename_event (m : MacroStep) : (m.rename ρ ι).event = m.event := by
  simp only [MacroStep.event, MacroStep.rename]
  induction m.steps with
  | nil => rfl
  | cons x xs ih =>
    simp only [List.map_cons, List.findSome?_cons]
    have : (Micro.rename ρ ι x).event = x.event := rfl
    rw [this]
    cases x.event with
    | none => exact ih
    | some e => rfl

def OptMR (ρ : Name → Name) (ι : Nat → Nat) (m m' : Option MacroStep) : Prop := m' = m.map (MacroStep.rename ρ ι)

theorem eqv_finishStep (ms : Option MacroStep) :
    EqvM ρ ι C S (OptMR ρ ι) (finishStep env ms) (finishStep env' (ms.map (MacroStep.rename ρ ι))) := by
  unfold finishStep
  apply EqvM.bind EqvM.get; intro st st' hst
  have hev : (ms.map (MacroStep.rename ρ ι)).bind (·.event) = ms.bind (·.event) := by
    cases ms with
    | none => rfl
    | some m => exact MacroStep.rename_event m
  rw [hev]
  apply EqvM.bind (Rv := fun _ _ => True)
  · have hsort : env'.chart.sortConfig st'.config = (env.chart.sortConfig st.config).map ρ := by
      simp only [Chart.sortConfig, hst.1.config]
      exact isort_map ρ env.chart.leDepthName env'.chart.leDepthName st.config
        (fun x hx y hy => leDepthName_mapNames h.ok env.chart h.names h.ren x y (hst.2.config x hx) (hst.2.config y hy))
    rw [hsort]
    apply EqvM.forEach (Rg := fun n n' => n' = ρ n ∧ S n)
    · intro n n' ⟨e, hn⟩
      subst e
      apply EqvM.bind (eqv_stateObj h n hn); intro s s' ⟨hs, hmem⟩
      subst hs
      exact eqv_evalContract h .inv (.state s) hmem _
    · apply List.forall₂_map_right_iff.2
      apply List.forall₂_same.2
      intro n hn
      exact ⟨rfl, hst.2.config n ((mem_isort _ _ n).1 hn)⟩
  intro _ _ _
  apply EqvM.bind (eqv_raiseMeta h (.same _)); intro _ _ _
  exact EqvM.pure rfl

omit h in
theorem popEvent_rel (st st' : IState σ) (h1 : StR ρ C st st') :
    (popEvent st').1 = (popEvent st).1 ∧ StR ρ C (popEvent st).2 (popEvent st').2 := by
  obtain ⟨e, ei, ee⟩ := popEvent_congr st st' h1.intQ h1.extQ h1.time
  refine ⟨e, ?_⟩
  rw [popEvent_queues st, popEvent_queues st']
  exact { h1 with intQ := ei, extQ := ee }

omit h in
theorem popEvent_good (st : IState σ) (hg : GoodSt S st) : GoodSt S (popEvent st).2 := by
  rw [popEvent_queues]
  exact hg.frame rfl rfl rfl rfl

theorem eqv_runSteps (computed : List Micro) (hl : ∀ m ∈ computed, GoodStep S env.chart m) :
    EqvM ρ ι C S (OptMR ρ ι) (runSteps env computed) (runSteps env' (computed.map (Micro.rename ρ ι))) := by
  unfold runSteps
  cases computed with
  | nil => exact EqvM.pure rfl
  | cons first rest =>
    simp only [List.map_cons]
    have hfe : (Micro.rename ρ ι first).event = first.event := rfl
    rw [hfe]
    apply EqvM.bind (Rv := fun _ _ => True)
    · split
      · apply EqvM.bind EqvM.get; intro st st' hst
        apply EqvM.bind (Rv := fun _ _ => True)
        · apply EqvM.modify
          intro a a' h1 h2
          exact ⟨(popEvent_rel a a' h1).2, popEvent_good a h2⟩
        intro _ _ _
        rw [(popEvent_rel st st' hst.1).1]
        exact eqv_raiseMeta h (.same _)
      · exact EqvM.pure trivial
    intro _ _ _
    have := eqv_applyAll h (first :: rest) hl
    simp only [List.map_cons] at this
    apply EqvM.bind this; intro ex ex' hex
    apply EqvM.bind EqvM.get; intro st st' hst
    refine EqvM.pure ?_
    rw [OptMR, hst.1.time, hex]
    rfl

/-- **`execute_once` commutes with the relabelling**: the same macro step with the names substituted
    and the transitions re-identified (or nothing, or the same exception about the relabelled
    object), related states and logs afterwards. -/
theorem eqv_executeOnce (clock : Int) :
    EqvM ρ ι C S (OptMR ρ ι) (executeOnce env clock) (executeOnce env' clock) := by
  unfold executeOnce
  apply EqvM.bind (Rv := fun _ _ => True)
  · apply EqvM.modify
    intro a a' h1 h2
    exact ⟨{ h1 with time := rfl, sentEvents := rfl }, h2.frame rfl rfl rfl rfl⟩
  intro _ _ _
  apply EqvM.bind (eqv_raiseMeta h (.same _)); intro _ _ _
  apply EqvM.bind (eqv_computeSteps h); intro computed computed' ⟨hc, hgood⟩
  rw [hc]
  apply EqvM.bind (eqv_runSteps h computed hgood); intro ms ms' hms
  rw [hms]
  exact eqv_finishStep h ms

end Whole

/-- related outcomes of one call -/
inductive OutcomeR (ρ : Name → Name) (ι : Nat → Nat) : Except Err (Option MacroStep) → Except Err (Option MacroStep) → Prop
  | ok (m : Option MacroStep) : OutcomeR ρ ι (.ok m) (.ok (m.map (MacroStep.rename ρ ι)))
  | error (e e' : Err) (h : ErrR ρ ι e e') : OutcomeR ρ ι (.error e) (.error e')

section Runs
variable {ρ : Name → Name} {ι : Nat → Nat} {C : σ → σ → Prop} {S : Name → Prop}
variable {env env' : Env σ ω}

/-- one call, spelled out -/
theorem equivariant_executeOnce (h : EnvR ρ ι C S env env') (clock : Int) (rs rs' : RS σ ω)
    (hr : RSR ρ ι C rs rs') (hg : GoodSt S rs.st) :
    OutcomeR ρ ι (executeOnce env clock rs).1 (executeOnce env' clock rs').1 ∧
      RSR ρ ι C (executeOnce env clock rs).2 (executeOnce env' clock rs').2 ∧
      GoodSt S (executeOnce env clock rs).2.st := by
  rcases (eqv_executeOnce h clock rs rs' hr hg).cases with ⟨a, _, _, _, e, e', hv, hs⟩ | ⟨_, _, _, _, e, e', he, hs⟩
  · rw [e, e', show _ = _ from hv]; exact ⟨.ok a, hs⟩
  · rw [e, e']; exact ⟨.error _ _ he, hs⟩

end Runs

end Sismic
