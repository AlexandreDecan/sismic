import Sismic.Proofs.ChartPerm
import Sismic.Proofs.Hoare
import Sismic.Proofs.Select
/-!
# Sismic.Proofs.SelectPerm — `_select_transitions` and `_sort_transitions` on permuted lists: same transitions
selected, same guards evaluated (as multisets), same verdict and processing order
-/
namespace Sismic

theorem goEvaluated_perm (ok : Trans → Bool) (G G' : List Trans) (hp : G'.Perm G) :
    ∀ prios : List Int, (goEvaluated ok G' prios).Perm (goEvaluated ok G prios)
  | [] => List.Perm.refl _
  | p :: ps => by
    simp only [goEvaluated]
    have hc : (G'.filter (fun t => t.priority = p)).Perm (G.filter (fun t => t.priority = p)) := hp.filter _
    rw [hc.any_eq]
    split
    · exact hc
    · exact hc.append (goEvaluated_perm ok G G' hp ps)

def OptPerm : Option (List Trans) → Option (List Trans) → Prop
  | none, none => True
  | some a, some b => a.Perm b
  | _, _ => False

theorem goClasses_perm (ok : Trans → Bool) (G G' : List Trans) (hp : G'.Perm G) :
    ∀ prios : List Int, OptPerm (goClasses ok G' prios) (goClasses ok G prios)
  | [] => trivial
  | p :: ps => by
    simp only [goClasses]
    have hc : (G'.filter (fun t => t.priority = p)).Perm (G.filter (fun t => t.priority = p)) := hp.filter _
    rw [hc.any_eq]
    split
    · exact hc.filter _
    · exact goClasses_perm ok G G' hp ps

structure SelRel (st' st : SelSt) : Prop where
  selected : st'.selected.Perm st.selected
  ignored : st'.ignored = st.ignored
  evaluated : st'.evaluated.Perm st.evaluated

/-- selection looks at the chart through `ancestors` only (`depth` is its length) -/
theorem stepSrc_perm {c c' : Chart} (hc : ∀ s, c'.ancestors s = c.ancestors s) (ok : Trans → Bool)
    (G G' : List Trans) (hp : G'.Perm G) (st st' : SelSt) (hs : SelRel st' st) (src : Name) :
    SelRel (stepSrc c' ok G' st' src) (stepSrc c ok G st src) := by
  unfold stepSrc
  rw [hs.ignored]
  split
  · exact hs
  · have ht : (G'.filter (fun t => t.source = src)).Perm (G.filter (fun t => t.source = src)) := hp.filter _
    simp only [keysSorted_perm lePrio lePrio_total (·.priority) _ _ ht, hc]
    generalize keysSorted lePrio (·.priority) (G.filter (fun t => t.source = src)) = prios
    have hev := hs.evaluated.append (goEvaluated_perm ok _ _ ht prios)
    have hcl := goClasses_perm ok _ _ ht prios
    revert hcl
    cases goClasses ok (G'.filter (fun t => t.source = src)) prios <;>
      cases goClasses ok (G.filter (fun t => t.source = src)) prios <;> intro hcl
    · exact ⟨hs.selected, rfl, hev⟩
    · exact hcl.elim
    · exact hcl.elim
    · exact ⟨hs.selected.append hcl, rfl, hev⟩

theorem selectGroup_perm {c c' : Chart} (hc : ∀ s, c'.ancestors s = c.ancestors s) (ok : Trans → Bool)
    (G G' : List Trans) (hp : G'.Perm G) : SelRel (selectGroup c' ok G') (selectGroup c ok G) := by
  unfold selectGroup
  have hd : ∀ s, c'.depth s = c.depth s := fun s => by simp only [Chart.depth, hc]
  have hle : leSrc c' = leSrc c := by funext a b; simp only [leSrc, hd]
  rw [hle, keysSorted_perm (leSrc c) (leRevDepthName_total c) (·.source) _ _ hp]
  generalize keysSorted (leSrc c) (·.source) G = keys
  have : ∀ (st st' : SelSt), SelRel st' st →
      SelRel (keys.foldl (stepSrc c' ok G') st') (keys.foldl (stepSrc c ok G) st) := by
    induction keys with
    | nil => intro st st' h; exact h
    | cons k ks ih => intro st st' h; exact ih _ _ (stepSrc_perm hc ok G G' hp st st' h k)
  exact this {} {} ⟨List.Perm.refl _, rfl, List.Perm.refl _⟩

theorem selectTransitions_perm_of {c c' : Chart} (hc : ∀ s, c'.ancestors s = c.ancestors s)
    (ht : c'.transitions.Perm c.transitions) (cfg : List Name) (evName : Option String) (ok : Trans → Bool → Bool) :
    (selectTransitions c' cfg evName ok).selected.Perm (selectTransitions c cfg evName ok).selected ∧
    (selectTransitions c' cfg evName ok).calls.Perm (selectTransitions c cfg evName ok).calls := by
  unfold selectTransitions
  have hcons : (c'.transitions.filter (fun t => cfg.contains t.source && (t.event.isNone || t.event == evName))).Perm
      (c.transitions.filter (fun t => cfg.contains t.source && (t.event.isNone || t.event == evName))) :=
    ht.filter _
  have r0 := selectGroup_perm hc (fun t => ok t false) _ _ (hcons.filter (fun t => t.event.isNone))
  have r1 := selectGroup_perm hc (fun t => ok t true) _ _ (hcons.filter (fun t => t.event.isSome))
  have hg : ∀ {s' s : SelSt} (b : Bool), SelRel s' s → (guardCalls s' b).Perm (guardCalls s b) :=
    fun b hr => (hr.evaluated.filter _).map _
  simp only
  rw [r0.selected.isEmpty_eq]
  exact rel_ite (R := fun a b : SelResult => a.selected.Perm b.selected ∧ a.calls.Perm b.calls) _
    ⟨r0.selected, hg false r0⟩ ⟨r1.selected, (hg false r0).append (hg true r1)⟩

/-- **same selection, same guard evaluations** — up to order -/
theorem selectTransitions_perm {c c' : Chart} (hc : ChartPerm c c') (hT : TreeOK c) (cfg : List Name)
    (evName : Option String) (ok : Trans → Bool → Bool) :
    (selectTransitions c' cfg evName ok).selected.Perm (selectTransitions c cfg evName ok).selected ∧
    (selectTransitions c' cfg evName ok).calls.Perm (selectTransitions c cfg evName ok).calls :=
  selectTransitions_perm_of hc.ancestors hc.transitions cfg evName ok

theorem pairs_any_perm {α} (P : α → α → Bool) (hsym : ∀ a b, P a b = P b a) {l l' : List α} (hp : l'.Perm l) :
    (pairs l').any (fun p => P p.1 p.2) = (pairs l).any (fun p => P p.1 p.2) := by
  induction hp with
  | nil => rfl
  | cons x _ ih =>
    rename_i l₁ l₂ hp
    simp only [pairs, List.any_append, List.any_map, Function.comp_def, ih]
    rw [hp.any_eq]
  | swap x y l =>
    simp only [pairs, List.any_append, List.any_map, Function.comp_def, List.map_cons, List.any_cons,
      List.cons_append]
    rw [hsym y x]
    cases P x y <;> cases l.any (fun z => P y z) <;> cases l.any (fun z => P x z) <;> simp
  | trans _ _ ih1 ih2 => rw [ih1, ih2]

theorem nonDetPair_symm (c : Chart) (hT : TreeOK c) (a b : Trans) : nonDetPair c a b = nonDetPair c b a := by
  simp only [nonDetPair, lca_symm c hT a.source b.source]
  rw [Bool.beq_comm (a := a.source)]

theorem conflictPair_symm (c : Chart) (hT : TreeOK c) (a b : Trans) : conflictPair c a b = conflictPair c b a := by
  simp only [conflictPair, lca_symm c hT a.source b.source, Bool.or_comm]

/-- **`_sort_transitions` depends on the set of transitions it is given, not on their order**: the
    two checks range over unordered pairs (they are symmetric in a tree), and an accepted list is
    sorted by a key that is injective on it -/
theorem sortTransitions_of_perm (c : Chart) (hT : TreeOK c) {sel sel' : List Trans} (hp : sel'.Perm sel) :
    sortTransitions c sel' = sortTransitions c sel := by
  unfold sortTransitions
  rw [hp.length_eq, pairs_any_perm (nonDetPair c) (nonDetPair_symm c hT) hp,
    pairs_any_perm (conflictPair c) (conflictPair_symm c hT) hp]
  -- `split` is slow on this goal
  by_cases hlen : sel.length ≤ 1
  · rw [if_pos hlen, if_pos hlen, perm_eq_of_length_le_one hp hlen]
  · rw [if_neg hlen, if_neg hlen]
    by_cases hnd : (pairs sel).any (fun p => nonDetPair c p.1 p.2) = true
    · rw [if_pos hnd, if_pos hnd]
    · rw [if_neg hnd, if_neg hnd, isort_leTrans_eq_of_perm c hp.symm (fun hex => hnd (List.any_eq_true.mpr hex))]

namespace ChartPerm
variable {c c' : Chart} (h : ChartPerm c c')
include h

theorem nonDetPair (a b : Trans) : Sismic.nonDetPair c' a b = Sismic.nonDetPair c a b := by
  simp only [Sismic.nonDetPair, h.lca, h.kindOf]

theorem conflictPair (hw : WFChart c) (a b : Trans) : Sismic.conflictPair c' a b = Sismic.conflictPair c a b := by
  have hl : ∀ l t, Sismic.leavesRegion c' l t = Sismic.leavesRegion c l t := by
    intro l t
    simp only [Sismic.leavesRegion, h.lastBefore]
    cases t.target with
    | none => rfl
    | some tg =>
      simp only
      rw [((h.descendants_perm' hw _).cons _).contains_eq]
  simp only [Sismic.conflictPair, h.lca, hl]

theorem sortTransitions_chart (hw : WFChart c) (sel : List Trans) :
    Sismic.sortTransitions c' sel = Sismic.sortTransitions c sel := by
  have hle : Sismic.leTrans c' = Sismic.leTrans c := by funext a b; simp only [Sismic.leTrans, h.leRevDepthName]
  unfold Sismic.sortTransitions
  rw [funext (fun p : Trans × Trans => h.nonDetPair p.1 p.2),
    funext (fun p : Trans × Trans => h.conflictPair hw p.1 p.2), hle]

/-- `_sort_transitions`: same verdict, same order -/
theorem sortTransitions (hw : WFChart c) {sel sel' : List Trans} (hp : sel'.Perm sel) :
    Sismic.sortTransitions c' sel' = Sismic.sortTransitions c sel :=
  (h.sortTransitions_chart hw sel').trans (sortTransitions_of_perm c hw.tree hp)

end ChartPerm
end Sismic
