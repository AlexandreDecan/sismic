import Sismic.Model.Interp
/-!
# Sismic.Proofs.Queue — `_queue_event` (bisect_right + insert) and `_select_event`
-/
namespace Sismic

def QSorted (q : List (Int × Event)) : Prop := q.Pairwise (fun a b => a.1 ≤ b.1)

theorem queueInsert_eq (d : Int) (e : Event) (q : List (Int × Event)) :
    queueInsert d e q = q.takeWhile (fun p => decide (p.1 ≤ d)) ++ (d, e) :: q.dropWhile (fun p => decide (p.1 ≤ d)) := by
  induction q with
  | nil => simp [queueInsert]
  | cons p r ih =>
    obtain ⟨d', x'⟩ := p
    unfold queueInsert
    by_cases h : d' ≤ d
    · simp [h, ih]
    · simp [h]

theorem queueInsert_perm (d : Int) (e : Event) (q : List (Int × Event)) :
    (queueInsert d e q).Perm ((d, e) :: q) := by
  induction q with
  | nil => simp [queueInsert]
  | cons p r ih =>
    obtain ⟨d', x'⟩ := p
    unfold queueInsert
    split
    · exact (List.Perm.cons _ ih).trans (List.Perm.swap _ _ _)
    · exact List.Perm.refl _

theorem mem_queueInsert (d : Int) (e : Event) (q : List (Int × Event)) (x : Int × Event) :
    x ∈ queueInsert d e q ↔ x = (d, e) ∨ x ∈ q :=
  (queueInsert_perm d e q).mem_iff.trans List.mem_cons

theorem queueInsert_sorted (d : Int) (e : Event) (q : List (Int × Event)) (h : QSorted q) :
    QSorted (queueInsert d e q) := by
  induction q with
  | nil => simp [queueInsert, QSorted]
  | cons p r ih =>
    obtain ⟨d', x'⟩ := p
    unfold queueInsert
    unfold QSorted at h ⊢
    rw [List.pairwise_cons] at h
    by_cases hd : d' ≤ d
    · simp only [hd, if_true]
      rw [List.pairwise_cons]
      refine ⟨?_, ih h.2⟩
      intro x hx
      rcases (mem_queueInsert d e r x).mp hx with rfl | hx
      · exact hd
      · exact h.1 x hx
    · simp only [hd, if_false]
      rw [List.pairwise_cons, List.pairwise_cons]
      refine ⟨?_, h⟩
      intro x hx
      rcases List.mem_cons.mp hx with rfl | hx
      · simp only; omega
      · have := h.1 x hx; simp only at this ⊢; omega

theorem head_least (q : List (Int × Event)) (h : QSorted q) (p : Int × Event) (r : List (Int × Event))
    (hq : q = p :: r) : ∀ x ∈ q, p.1 ≤ x.1 := by
  subst hq
  intro x hx
  rcases List.mem_cons.mp hx with rfl | hx
  · exact Int.le_refl _
  · exact (List.pairwise_cons.mp h).1 x hx

variable {σ : Type}

theorem pop_fst_eq_peek (st : IState σ) : (popEvent st).1 = peekEvent st := by
  unfold popEvent peekEvent
  split
  · split
    · rfl
    · split
      · split <;> rfl
      · rfl
  · split
    · split <;> rfl
    · rfl

theorem peek_spec (st : IState σ) :
    peekEvent st =
      match st.intQ.head? with
      | some (d, e) => if d ≤ st.time then some e else
          (match st.extQ.head? with
           | some (d', e') => if d' ≤ st.time then some e' else none
           | none => none)
      | none =>
          (match st.extQ.head? with
           | some (d', e') => if d' ≤ st.time then some e' else none
           | none => none) := by
  unfold peekEvent
  cases st.intQ with
  | nil => cases st.extQ with
    | nil => rfl
    | cons p r => obtain ⟨d, e⟩ := p; rfl
  | cons p r =>
    obtain ⟨d, e⟩ := p
    cases st.extQ with
    | nil => simp
    | cons p' r' => obtain ⟨d', e'⟩ := p'; simp

theorem pop_spec (st : IState σ) :
    (peekEvent st = none ∧ (popEvent st).2 = st) ∨
    (∃ d e r, st.intQ = (d, e) :: r ∧ d ≤ st.time ∧ peekEvent st = some e ∧ (popEvent st).2 = { st with intQ := r }) ∨
    (∃ d e r, st.extQ = (d, e) :: r ∧ d ≤ st.time ∧ peekEvent st = some e ∧
      (∀ d' e' r', st.intQ = (d', e') :: r' → ¬ d' ≤ st.time) ∧ (popEvent st).2 = { st with extQ := r }) := by
  unfold popEvent peekEvent
  cases hi : st.intQ with
  | nil =>
    cases he : st.extQ with
    | nil => left; simp
    | cons p r =>
      obtain ⟨d, e⟩ := p
      by_cases hd : d ≤ st.time
      · right; right
        refine ⟨d, e, r, rfl, hd, ?_, ?_, ?_⟩
        · simp [hd]
        · intro _ _ _ h; cases h
        · simp [hd]
      · left; simp [hd]
  | cons p r =>
    obtain ⟨d, e⟩ := p
    by_cases hd : d ≤ st.time
    · right; left
      refine ⟨d, e, r, rfl, hd, ?_, ?_⟩
      · simp [hd]
      · simp [hd]
    · cases he : st.extQ with
      | nil => left; simp [hd]
      | cons p' r' =>
        obtain ⟨d', e'⟩ := p'
        by_cases hd' : d' ≤ st.time
        · right; right
          refine ⟨d', e', r', rfl, hd', ?_, ?_, ?_⟩
          · simp [hd, hd']
          · intro d'' e'' r'' h
            cases h
            exact hd
          · simp [hd, hd']
        · left; simp [hd, hd']

/-- `_select_event(consume=True)` on the two queues alone: the event and what is left -/
def popQueues (t : Int) : List (Int × Event) → List (Int × Event) → Option Event × List (Int × Event) × List (Int × Event)
  | (d, e) :: r, ext => if d ≤ t then (some e, r, ext) else
      (match ext with
       | (d', e') :: r' => if d' ≤ t then (some e', (d, e) :: r, r') else (none, (d, e) :: r, ext)
       | [] => (none, (d, e) :: r, ext))
  | [], ext =>
      (match ext with
       | (d', e') :: r' => if d' ≤ t then (some e', [], r') else (none, [], ext)
       | [] => (none, [], ext))

/-- consuming reads the queues and the step time and writes the queues, nothing else -/
theorem popEvent_eq (st : IState σ) :
    popEvent st = ((popQueues st.time st.intQ st.extQ).1,
      { st with intQ := (popQueues st.time st.intQ st.extQ).2.1, extQ := (popQueues st.time st.intQ st.extQ).2.2 }) := by
  obtain ⟨_, t, _, _, _, _, _, iq, eq, _, _⟩ := st
  unfold popEvent
  rcases iq with _ | ⟨⟨d, e⟩, r⟩ <;> rcases eq with _ | ⟨⟨d', e'⟩, r'⟩ <;> dsimp only [popQueues] <;>
    repeat' split
  all_goals rfl

theorem popEvent_queues (st : IState σ) :
    (popEvent st).2 = { st with intQ := (popEvent st).2.intQ, extQ := (popEvent st).2.extQ } := by
  rw [popEvent_eq]

/-- the two states may carry different evaluators -/
theorem popEvent_congr {τ : Type} (st : IState σ) (st' : IState τ) (h1 : st'.intQ = st.intQ)
    (h2 : st'.extQ = st.extQ) (h3 : st'.time = st.time) :
    (popEvent st').1 = (popEvent st).1 ∧ (popEvent st').2.intQ = (popEvent st).2.intQ ∧
      (popEvent st').2.extQ = (popEvent st).2.extQ := by
  rw [popEvent_eq, popEvent_eq, h1, h2, h3]
  exact ⟨rfl, rfl, rfl⟩

/-- the events a listener has queued (the fold of `callListener`) go to the external queue and
    change nothing else -/
theorem foldl_extQ_eq (qs : List Event) (st : IState σ) :
    qs.foldl (fun st e => { st with extQ := queueInsert (st.time + e.delay) e st.extQ }) st =
      { st with extQ := qs.foldl (fun q e => queueInsert (st.time + e.delay) e q) st.extQ } := by
  induction qs generalizing st with
  | nil => rfl
  | cons q qs ih => rw [List.foldl_cons, ih]; rfl

theorem callListener_eq {ω : Type} (env : Env σ ω) (m : Event) (l : Nat) (rs : RS σ ω) :
    callListener env m l rs =
      ((env.deliver l m rs.st.time rs.world).1,
       { rs with st := { rs.st with extQ := (env.deliver l m rs.st.time rs.world).2.2.foldl
                                      (fun q e => queueInsert (rs.st.time + e.delay) e q) rs.st.extQ },
                 world := (env.deliver l m rs.st.time rs.world).2.1 }) := by
  unfold callListener
  simp only [foldl_extQ_eq]

end Sismic
