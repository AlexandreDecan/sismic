import Sismic.Proofs.Equivariant
import Sismic.Model.Plan
/-!
# Sismic.Proofs.EquivSelect — transition selection commutes with an order-preserving renaming

For `ρ` injective and order-preserving on the names the statechart mentions: the transitions
selected in the substituted statechart, for the substituted configuration, are the substituted
selected transitions (same guard calls in the same order).
-/
namespace Sismic

/-! ### `sorted_groupby` -/

section GroupBy
variable {κ κ' : Type} [DecidableEq κ] [DecidableEq κ']

theorem insKey_map (g : κ → κ') (P : κ → Prop) (le : κ → κ → Bool) (le' : κ' → κ' → Bool)
    (hinj : ∀ a b, P a → P b → g a = g b → a = b) (hle : ∀ a b, P a → P b → le' (g a) (g b) = le a b)
    (k : κ) (hk : P k) : ∀ ks : List κ, (∀ y ∈ ks, P y) →
      insKey le' (g k) (ks.map g) = (insKey le k ks).map g
  | [], _ => rfl
  | y :: ys, h => by
    have hy : P y := h y (by simp)
    simp only [List.map_cons, insKey]
    by_cases e : k = y
    · subst e; simp
    · have e' : g k ≠ g y := fun x => e (hinj k y hk hy x)
      simp only [e, e', if_false, hle k y hk hy]
      split
      · rfl
      · simp only [List.map_cons]
        rw [insKey_map g P le le' hinj hle k hk ys (fun z hz => h z (by simp [hz]))]

theorem keysSorted_map {α α' : Type} (g : κ → κ') (P : κ → Prop) (le : κ → κ → Bool) (le' : κ' → κ' → Bool)
    (hinj : ∀ a b, P a → P b → g a = g b → a = b) (hle : ∀ a b, P a → P b → le' (g a) (g b) = le a b)
    (f : α → α') (key : α → κ) (key' : α' → κ') (xs : List α)
    (hkey : ∀ x ∈ xs, key' (f x) = g (key x)) (hP : ∀ x ∈ xs, P (key x)) :
    keysSorted le' key' (xs.map f) = (keysSorted le key xs).map g := by
  simp only [keysSorted]
  have : ∀ (xs : List α) (acc : List κ), (∀ x ∈ xs, key' (f x) = g (key x)) → (∀ x ∈ xs, P (key x)) →
      (∀ y ∈ acc, P y) →
      (xs.map f).foldl (fun acc x => insKey le' (key' x) acc) (acc.map g) =
        (xs.foldl (fun acc x => insKey le (key x) acc) acc).map g := by
    intro xs
    induction xs with
    | nil => intros; rfl
    | cons x xs ih =>
      intro acc hk hp hacc
      simp only [List.map_cons, List.foldl_cons]
      rw [hk x (by simp), insKey_map g P le le' hinj hle (key x) (hp x (by simp)) acc hacc]
      apply ih _ (fun y hy => hk y (by simp [hy])) (fun y hy => hp y (by simp [hy]))
      intro y hy
      rcases (mem_insKey le (key x) y acc).1 hy with e | h
      · subst e; exact hp x (by simp)
      · exact hacc y h
  exact this xs [] hkey hP (by simp)

end GroupBy

/-! ### `_select_transitions` -/

def SelSt.rename (ρ : Name → Name) (ι : Nat → Nat) (st : SelSt) : SelSt :=
  { selected := st.selected.map (Trans.relabel ρ ι), ignored := st.ignored.map ρ,
    evaluated := st.evaluated.map (Trans.relabel ρ ι) }

section
variable {S : Name → Prop} {ρ : Name → Name} {ι : Nat → Nat} (hρ : RenOK S ρ)

theorem goClasses_rename (ok ok' : Trans → Bool) (G : List Trans)
    (hok : ∀ t ∈ G, ok' (t.relabel ρ ι) = ok t) : ∀ ps : List Int,
    goClasses ok' (G.map (Trans.relabel ρ ι)) ps = (goClasses ok G ps).map (List.map (Trans.relabel ρ ι))
  | [] => rfl
  | p :: ps => by
    simp only [goClasses]
    have e1 : (G.map (Trans.relabel ρ ι)).filter (fun t => t.priority = p) =
        (G.filter (fun t => t.priority = p)).map (Trans.relabel ρ ι) :=
      filter_map_comm _ _ _ G (fun x _ => rfl)
    have hsub : ∀ t ∈ G.filter (fun t => t.priority = p), ok' (t.relabel ρ ι) = ok t :=
      fun t ht => hok t (List.mem_filter.1 ht).1
    rw [e1, any_map_comm _ ok ok' _ hsub]
    split
    · simp only [Option.map_some]
      rw [filter_map_comm _ ok ok' _ hsub]
    · exact goClasses_rename ok ok' G hok ps

theorem goEvaluated_rename (ok ok' : Trans → Bool) (G : List Trans)
    (hok : ∀ t ∈ G, ok' (t.relabel ρ ι) = ok t) : ∀ ps : List Int,
    goEvaluated ok' (G.map (Trans.relabel ρ ι)) ps = (goEvaluated ok G ps).map (Trans.relabel ρ ι)
  | [] => rfl
  | p :: ps => by
    simp only [goEvaluated]
    have e1 : (G.map (Trans.relabel ρ ι)).filter (fun t => t.priority = p) =
        (G.filter (fun t => t.priority = p)).map (Trans.relabel ρ ι) :=
      filter_map_comm _ _ _ G (fun x _ => rfl)
    have hsub : ∀ t ∈ G.filter (fun t => t.priority = p), ok' (t.relabel ρ ι) = ok t :=
      fun t ht => hok t (List.mem_filter.1 ht).1
    rw [e1, any_map_comm _ ok ok' _ hsub]
    split
    · rfl
    · rw [List.map_append, goEvaluated_rename ok ok' G hok ps]

include hρ

theorem stepSrc_rename (c : Chart) (hc : NamesIn S c) {c' : Chart} (hr : IsRen ρ ι c c') (ok ok' : Trans → Bool) (G : List Trans)
    (hG : ∀ t ∈ G, S t.source) (hok : ∀ t ∈ G, ok' (t.relabel ρ ι) = ok t)
    (st : SelSt) (hst : ∀ x ∈ st.ignored, S x) (src : Name) (hsrc : S src) :
    stepSrc c' ok' (G.map (Trans.relabel ρ ι)) (st.rename ρ ι) (ρ src) =
      (stepSrc c ok G st src).rename ρ ι := by
  unfold stepSrc
  have hmem : (ρ src ∈ (st.rename ρ ι).ignored) ↔ (src ∈ st.ignored) := hρ.mem st.ignored src hst hsrc
  by_cases hi : src ∈ st.ignored
  · rw [if_pos hi, if_pos (hmem.2 hi)]
  · rw [if_neg hi, if_neg (fun h => hi (hmem.1 h))]
    have e1 : (G.map (Trans.relabel ρ ι)).filter (fun t => t.source = ρ src) =
        (G.filter (fun t => t.source = src)).map (Trans.relabel ρ ι) := by
      apply filter_map_comm
      intro t ht
      show decide (ρ t.source = ρ src) = decide (t.source = src)
      by_cases e : t.source = src
      · simp [e]
      · have : ρ t.source ≠ ρ src := fun x => e (hρ.inj _ _ (hG t ht) hsrc x)
        simp [e, this]
    have hsub : ∀ t ∈ G.filter (fun t => t.source = src), ok' (t.relabel ρ ι) = ok t :=
      fun t ht => hok t (List.mem_filter.1 ht).1
    have e2 : keysSorted lePrio (·.priority) ((G.filter (fun t => t.source = src)).map (Trans.relabel ρ ι)) =
        keysSorted lePrio (·.priority) (G.filter (fun t => t.source = src)) := by
      have := keysSorted_map (id : Int → Int) (fun _ => True) lePrio lePrio (fun _ _ _ _ h => h) (fun _ _ _ _ => rfl)
        (Trans.relabel ρ ι) (·.priority) (·.priority) (G.filter (fun t => t.source = src)) (fun _ _ => rfl) (fun _ _ => trivial)
      simpa using this
    simp only [e1, e2, goEvaluated_rename ok ok' _ hsub, goClasses_rename ok ok' _ hsub]
    cases goClasses ok (G.filter (fun t => t.source = src))
        (keysSorted lePrio (·.priority) (G.filter (fun t => t.source = src))) with
    | none => simp [SelSt.rename]
    | some sel =>
      simp only [Option.map_some, SelSt.rename, List.map_append, ancestors_mapNames hρ c hc hr src hsrc,
        List.map_cons, List.map_nil]

theorem leSrc_mapNames (c : Chart) (hc : NamesIn S c) {c' : Chart} (hr : IsRen ρ ι c c') (a b : Name) (ha : S a) (hb : S b) :
    leSrc c' (ρ a) (ρ b) = leSrc c a b := by
  simp only [leSrc, depth_mapNames hρ c hc hr a ha, depth_mapNames hρ c hc hr b hb, hρ.mono a b ha hb]

omit hρ in
theorem stepSrc_ignored_in (c : Chart) (hc : NamesIn S c) (ok : Trans → Bool) (G : List Trans)
    (st : SelSt) (hst : ∀ x ∈ st.ignored, S x) (src : Name) (hsrc : S src) :
    ∀ x ∈ (stepSrc c ok G st src).ignored, S x := by
  unfold stepSrc
  by_cases hi : src ∈ st.ignored
  · rw [if_pos hi]; exact hst
  · rw [if_neg hi]
    dsimp only
    split
    · intro x hx
      simp only [List.mem_append, List.mem_singleton] at hx
      rcases hx with (h | h) | h
      · exact hst x h
      · exact hc.ancestors_in src x h
      · subst h; exact hsrc
    · exact hst

theorem selectGroup_rename (c : Chart) (hc : NamesIn S c) {c' : Chart} (hr : IsRen ρ ι c c') (ok ok' : Trans → Bool) (G : List Trans)
    (hG : ∀ t ∈ G, S t.source) (hok : ∀ t ∈ G, ok' (t.relabel ρ ι) = ok t) :
    selectGroup c' ok' (G.map (Trans.relabel ρ ι)) = (selectGroup c ok G).rename ρ ι := by
  unfold selectGroup
  have hk : keysSorted (leSrc c') (·.source) (G.map (Trans.relabel ρ ι)) =
      (keysSorted (leSrc c) (·.source) G).map ρ :=
    keysSorted_map ρ S (leSrc c) (leSrc c') hρ.inj (leSrc_mapNames hρ c hc hr)
      (Trans.relabel ρ ι) (·.source) (·.source) G (fun _ _ => rfl) hG
  rw [hk]
  have hkeys : ∀ x ∈ keysSorted (leSrc c) (·.source) G, S x := by
    intro x hx
    obtain ⟨t, ht, e⟩ := (mem_keysSorted _ _ _ _).1 hx
    exact e ▸ hG t ht
  have : ∀ (l : List Name) (st : SelSt), (∀ x ∈ l, S x) → (∀ x ∈ st.ignored, S x) →
      (l.map ρ).foldl (stepSrc c' ok' (G.map (Trans.relabel ρ ι))) (st.rename ρ ι) =
        (l.foldl (stepSrc c ok G) st).rename ρ ι := by
    intro l
    induction l with
    | nil => intros; rfl
    | cons x xs ih =>
      intro st hl hst
      simp only [List.map_cons, List.foldl_cons]
      rw [stepSrc_rename hρ c hc hr ok ok' G hG hok st hst x (hl x (by simp))]
      exact ih _ (fun y hy => hl y (by simp [hy]))
        (stepSrc_ignored_in c hc ok G st hst x (hl x (by simp)))
  have h0 : ({} : SelSt) = ({} : SelSt).rename ρ ι := rfl
  rw [h0]
  exact this _ _ hkeys (by simp)

def SelResult.rename (ρ : Name → Name) (ι : Nat → Nat) (r : SelResult) : SelResult :=
  { selected := r.selected.map (Trans.relabel ρ ι), calls := r.calls.map (fun p => (p.1.relabel ρ ι, p.2)) }

omit hρ in
theorem guardCalls_rename (st : SelSt) (b : Bool) :
    guardCalls (st.rename ρ ι) b = (guardCalls st b).map (fun p => (p.1.relabel ρ ι, p.2)) := by
  simp only [guardCalls, SelSt.rename]
  rw [filter_map_comm (Trans.relabel ρ ι) (fun t => t.guard.isSome) (fun t => t.guard.isSome) _ (fun _ _ => rfl)]
  simp [List.map_map, Function.comp_def]

/-- **Selection commutes with the renaming**: same transitions selected (substituted), same guard
    evaluations in the same order. -/
theorem selectTransitions_rename (c : Chart) (hc : NamesIn S c) {c' : Chart} (hr : IsRen ρ ι c c') (cfg : List Name) (hcfg : ∀ x ∈ cfg, S x)
    (evName : Option String) (ok ok' : Trans → Bool → Bool)
    (hok : ∀ t ∈ c.transitions, ∀ b, ok' (t.relabel ρ ι) b = ok t b) :
    selectTransitions c' (cfg.map ρ) evName ok' =
      (selectTransitions c cfg evName ok).rename ρ ι := by
  unfold selectTransitions
  have e0 : c'.transitions.filter (fun t =>
        (cfg.map ρ).contains t.source && (t.event.isNone || t.event == evName)) =
      (c.transitions.filter (fun t => cfg.contains t.source && (t.event.isNone || t.event == evName))).map
        (Trans.relabel ρ ι) := by
    rw [hr.transitions]
    apply filter_map_comm
    intro t ht
    show ((cfg.map ρ).contains (ρ t.source) && _) = _
    rw [hρ.contains cfg t.source hcfg (hc.transS t ht)]
    rfl
  simp only [e0]
  obtain ⟨considered, hcons⟩ : ∃ X, X = c.transitions.filter (fun t =>
      cfg.contains t.source && (t.event.isNone || t.event == evName)) := ⟨_, rfl⟩
  rw [← hcons]
  have hsub : ∀ t ∈ considered, t ∈ c.transitions := fun t ht => by
    rw [hcons] at ht; exact (List.mem_filter.1 ht).1
  have f0 : (considered.map (Trans.relabel ρ ι)).filter (fun t => t.event.isNone) =
      (considered.filter (fun t => t.event.isNone)).map (Trans.relabel ρ ι) :=
    filter_map_comm _ _ _ _ (fun _ _ => rfl)
  have f1 : (considered.map (Trans.relabel ρ ι)).filter (fun t => t.event.isSome) =
      (considered.filter (fun t => t.event.isSome)).map (Trans.relabel ρ ι) :=
    filter_map_comm _ _ _ _ (fun _ _ => rfl)
  have g0 := selectGroup_rename hρ c hc hr (fun t => ok t false) (fun t => ok' t false)
    (considered.filter (fun t => t.event.isNone))
    (fun t ht => hc.transS t (hsub t (List.mem_filter.1 ht).1))
    (fun t ht => hok t (hsub t (List.mem_filter.1 ht).1) false)
  have g1 := selectGroup_rename hρ c hc hr (fun t => ok t true) (fun t => ok' t true)
    (considered.filter (fun t => t.event.isSome))
    (fun t ht => hc.transS t (hsub t (List.mem_filter.1 ht).1))
    (fun t ht => hok t (hsub t (List.mem_filter.1 ht).1) true)
  simp only [f0, f1, g0, g1]
  obtain ⟨r0, hr0⟩ : ∃ X, X = selectGroup c (fun t => ok t false) (considered.filter (fun t => t.event.isNone)) := ⟨_, rfl⟩
  obtain ⟨r1, hr1⟩ : ∃ X, X = selectGroup c (fun t => ok t true) (considered.filter (fun t => t.event.isSome)) := ⟨_, rfl⟩
  rw [← hr0, ← hr1]
  have hemp : (r0.rename ρ ι).selected.isEmpty = r0.selected.isEmpty := by simp [SelSt.rename]
  rw [hemp]
  cases r0.selected.isEmpty with
  | true =>
    simp only [Bool.not_true, Bool.false_eq_true, if_false, SelResult.rename, guardCalls_rename, List.map_append]
    rfl
  | false =>
    simp only [Bool.not_false, if_true, SelResult.rename, guardCalls_rename]
    rfl

end

end Sismic
