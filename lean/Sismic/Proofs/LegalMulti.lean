import Sismic.Proofs.Legal
/-!
# Sismic.Proofs.LegalMulti — C02 for macro steps that fire several transitions (one per region)
-/
namespace Sismic

variable (c : Chart)

/-- two transitions live in different regions of an orthogonal state -/
def Separated (a b : Trans) : Prop :=
  ∃ L Ra Rb, c.kindOf L = some .orthogonal ∧ c.parentFor Ra = some L ∧ c.parentFor Rb = some L ∧ Ra ≠ Rb ∧
    Sub c Ra a.source ∧ Sub c Rb b.source ∧
    (∀ tg, a.target = some tg → Sub c Ra tg) ∧ (∀ tg, b.target = some tg → Sub c Rb tg)

theorem Separated.symm {c : Chart} {a b : Trans} (h : Separated c a b) : Separated c b a := by
  obtain ⟨L, Ra, Rb, h1, h2, h3, h4, h5, h6, h7, h8⟩ := h
  exact ⟨L, Rb, Ra, h1, h3, h2, h4.symm, h6, h5, h8, h7⟩

/-- what `_sort_transitions` accepts, for two fired transitions, is separated -/
theorem separated_of_checks (h : WFChart c) (a b : Trans)
    (hnd : nonDetPair c a b = false) (hcf : conflictPair c a b = false)
    (hna : ¬ Anc c a.source b.source) (hnb : ¬ Anc c b.source a.source) : Separated c a b := by
  have hT := h.tree
  simp only [nonDetPair, Bool.or_eq_false_iff, beq_eq_false_iff_ne, ne_eq] at hnd
  obtain ⟨hne, hl⟩ := hnd
  cases hlca : c.lca a.source b.source with
  | none => rw [hlca] at hl; exact absurd hl (by simp)
  | some L =>
    rw [hlca] at hl
    have hk : c.kindOf L = some .orthogonal := by simpa using hl
    obtain ⟨hLa, hLb, hmax⟩ := lca_spec c hT _ _ L hlca
    obtain ⟨pa, subA⟩ := lastBefore_sub c hT hLa
    obtain ⟨pb, subB⟩ := lastBefore_sub c hT hLb
    simp only [conflictPair, hlca, Bool.or_eq_false_iff] at hcf
    have tgt : ∀ (t : Trans), leavesRegion c (some L) t = false →
        ∀ tg, t.target = some tg → Sub c (lastBefore c t.source (some L)) tg := by
      intro t hlr tg htg
      simp only [leavesRegion, htg, Bool.not_eq_false', List.contains_iff_mem, List.mem_cons] at hlr
      rcases hlr with e | e
      · exact Or.inl e
      · exact Or.inr ((mem_descendants' c h _ tg).mp e)
    refine ⟨L, _, _, hk, pa, pb, ?_, subA, subB,
      tgt a hcf.1, tgt b hcf.2⟩
    intro e
    rw [← e] at subB
    rcases subA with e1 | e1 <;> rcases subB with e2 | e2
    · exact hne (e1.trans e2.symm)
    · rw [← e1] at e2; exact hna e2
    · rw [← e2] at e1; exact hnb e1
    · exact not_sub_parent c hT pa ((hmax _ e1 e2).imp Eq.symm id)

theorem lastBefore_in_region (hT : TreeOK c) {L R s l : Name} (hR : c.parentFor R = some L) (hs : Sub c R s)
    (hls : Anc c l s) (hLl : L = l ∨ Anc c L l) : Sub c R (lastBefore c s (some l)) := by
  obtain ⟨px, subx⟩ := lastBefore_sub c hT hls
  rcases hLl with e | e
  · subst e
    exact Or.inl (child_on_chain_unique c hT px hR subx hs)
  · -- `l` strictly below `L`: the child of `L` above `l` is on the way to `s`, so it is `R`
    obtain ⟨k, hk, hkl⟩ := Anc.child_of e
    rw [child_on_chain_unique c hT hR hk hs (Sub.trans' hkl (Or.inr hls))]
    exact sub_of_parent_sub px hkl

/-- a transition that lives in region `R` exits and enters only inside `R` -/
theorem touch_in_region (hT : TreeOK c) {L R s tg : Name} (hR : c.parentFor R = some L)
    (hs : Sub c R s) (ht : Sub c R tg) :
    ∃ l, c.lca s tg = some l ∧ Sub c R (lastBefore c s (some l)) ∧ Sub c R (lastBefore c tg (some l)) := by
  have up : ∀ x, Sub c R x → Anc c L x := by
    rintro x (e | e)
    · rw [e]; exact Anc.base hR
    · exact (Anc.base hR).trans e
  cases hl : c.lca s tg with
  | none =>
    exfalso
    simp only [Chart.lca] at hl
    have := List.find?_eq_none.mp hl L ((mem_ancestors c hT s L).mpr (up s hs))
    simp [(mem_ancestors c hT tg L).mpr (up tg ht)] at this
  | some l =>
    obtain ⟨hls, hlt, hmax⟩ := lca_spec c hT _ _ l hl
    have hLl := hmax L (up s hs) (up tg ht)
    exact ⟨l, rfl, lastBefore_in_region c hT hR hs hls hLl, lastBefore_in_region c hT hR ht hlt hLl⟩

end Sismic

namespace Sismic

variable (c : Chart)

theorem legal_compound_child (h : WFChart c) {cfg0 : List Name} (hL : Legal c cfg0) {z : Name}
    (hz : z ∈ cfg0) (hk : c.kindOf z = some .compound) : ∃ ch, c.parentFor ch = some z ∧ ch ∈ cfg0 := by
  simp only [Chart.kindOf, Option.map_eq_some_iff] at hk
  obtain ⟨sd, hsd, hk⟩ := hk
  obtain ⟨i, hi, _⟩ := h.initial z sd hsd hk
  have := (hL.compound z hz sd hsd hk).2 (by rw [hi]; rfl)
  obtain ⟨ch, hm⟩ := List.exists_mem_of_length_pos (Nat.lt_of_lt_of_eq Nat.zero_lt_one this.symm)
  simp only [List.mem_filter, List.contains_iff_mem] at hm
  exact ⟨ch, (h.children z ch).mp hm.1, hm.2⟩

/-- **A stabilisation step does not touch a protected subtree**: if the configuration agrees with
    a legal configuration `cfg0` on the subtree of `P`, and `P` lies in a region of an orthogonal
    state, a stabilisation step exits nothing and enters nothing new below `P`. -/
theorem stab_untouched (h : WFChart c) {cfg0 cfg : List Name} {mem : List (Name × List Name)}
    (hL0 : Legal c cfg0) (hS : Semi c cfg) (hM : MemOK c mem) {P L R : Name}
    (hkL : c.kindOf L = some .orthogonal) (hR : c.parentFor R = some L) (hRP : Sub c R P) (hP0 : P ∈ cfg0)
    (hag : ∀ z, Sub c P z → (z ∈ cfg ↔ z ∈ cfg0)) {m : Micro}
    (hstep : stabilizationStep c mem cfg = some m) :
    ∀ z, Sub c P z → (z ∈ m.exited → False) ∧ (z ∈ m.entered → z ∈ cfg) := by
  have hPc : P ∈ cfg := (hag P (Or.inl rfl)).mpr hP0
  have hRc : R ∈ cfg := hS.up_sub hRP hPc
  have hLc : L ∈ cfg := hS.up R hRc L hR
  cases stabilizationStep_shape c h hM hstep with
  | final leaf r hlc hr hpr hk hex hen =>
    -- a final child of the root is active: impossible next to an active region
    exfalso
    have honly := semi_final_only c h hS hr hlc hpr hk
    obtain ⟨r', hr', hrp, _⟩ := h.root
    rw [hr] at hr'; cases hr'
    rcases honly L hLc with e | e
    · rw [e] at hR; exact no_children c h hk rfl R hR
    · rcases honly R hRc with e' | e'
      · rw [e', e] at hR
        exact absurd (h.regions r leaf .final (by rw [← e]; exact hkL) hR hk) (by decide)
      · rw [e', hrp] at hR; cases hR
  | restore leaf p k M hlc hk hh hp hkp hG hex hen =>
    -- the history state is not in the protected subtree, and its parent is not above it
    have leafNot : Sub c P leaf → False := by
      intro hsub
      have := hL0.nohist leaf ((hag leaf hsub).mp hlc) k hk
      rw [hh] at this; cases this
    have hpc : p ∈ cfg := hS.up leaf hlc p hp
    have pNotAbove : Anc c p P → False := by
      intro hpP
      rcases hS.below_active_child hp hkp hlc hPc hpP with e | e
      · exact leafNot (Or.inl e.symm)
      · obtain ⟨ch, hch, _⟩ := Anc.child_of e
        exact no_children c h hk (Kind.not_composite_of_history hh) ch hch
    intro z hsub
    rw [hex, hen]
    refine ⟨fun hz => leafNot (List.mem_singleton.mp hz ▸ hsub), fun hz => ?_⟩
    exfalso
    have hpz := (hG.below z hz).1
    rcases hsub with e | e
    · rw [e] at hpz; exact pNotAbove hpz
    · rcases Anc.chain hpz e with e' | e' | e'
      · rw [e'] at hp; exact leafNot (Or.inr (Anc.base hp))
      · exact pNotAbove e'
      · exact leafNot (Or.inr (e'.trans (Anc.base hp)))
  | enter z' hz' hex hen hk =>
    intro z hsub
    rw [hex]
    refine ⟨List.not_mem_nil, fun hz => ?_⟩
    have hpz := hen z hz
    rcases hsub with e | e
    · rw [e]; exact hPc
    · -- `z` is strictly below `P`, so its parent `z'` is in the protected subtree
      have hsl : Sub c P z' := Sub.of_anc_child e hpz
      have hl0 : z' ∈ cfg0 := (hag z' hsl).mp hz'
      rcases hk with ho | ⟨hc, hno, _⟩
      · exact (hag z (Or.inr e)).mpr (hL0.orth z' hl0 ho z ((h.children z' z).mpr hpz))
      · exfalso
        obtain ⟨ch, hch, hc0⟩ := legal_compound_child c h hL0 hl0 hc
        exact hno ch hch ((hag ch (sub_of_parent_sub hch hsl)).mpr hc0)

end Sismic

namespace Sismic

variable (c : Chart)

/-- the top of the subtree that must stay as planned until transition `t` is applied -/
def protTop (t : Trans) : Name :=
  match t.target with
  | some tg => lastBefore c t.source (c.lca t.source tg)
  | none => t.source

/-- the current configuration still looks, around transition `t`, as it did when `t` was planned -/
def Pending (cfg0 cfg : List Name) (t : Trans) : Prop :=
  ∀ z, Sub c (protTop c t) z → (z ∈ cfg ↔ z ∈ cfg0)

/-- a transition that lives in region `R`: its protected subtree, what it exits and what it
    enters all lie in `R` -/
theorem prot_in (h : WFChart c) (cfg0 : List Name) (ev : Option Event) {t : Trans} {L R : Name}
    (pR : c.parentFor R = some L) (sR : Sub c R t.source) (tR : ∀ tg, t.target = some tg → Sub c R tg) :
    Sub c R (protTop c t) ∧ Sub c (protTop c t) t.source ∧
    (∀ z, z ∈ (createStep c cfg0 ev t).exited → Sub c R z) ∧
    (∀ z, z ∈ (createStep c cfg0 ev t).entered → Sub c R z) := by
  have hT := h.tree
  unfold protTop createStep
  cases htg : t.target with
  | none => exact ⟨sR, Or.inl rfl, by simp, by simp⟩
  | some tg =>
    obtain ⟨l, hl, hx, hy⟩ := touch_in_region c hT pR sR (tR tg htg)
    obtain ⟨hls, hlt, _⟩ := lca_spec c hT _ _ l hl
    obtain ⟨px, sx⟩ := lastBefore_sub c hT hls
    obtain ⟨py, sy⟩ := lastBefore_sub c hT hlt
    simp only [hl]
    refine ⟨hx, sx, ?_, ?_⟩
    · intro z hz
      exact Sub.trans' hx ((mem_exited c h cfg0 _ z).mp hz).2
    · intro z hz
      have := (mem_enteredPath_sub c hT hlt z).mp (by unfold enteredPath; exact hz)
      exact Sub.trans' hy (onPath_sub_y c hT sy py this.1 this.2)

end Sismic

namespace Sismic

variable (c : Chart)

theorem pending_of_untouched (cfg0 cfg : List Name) (mem : List (Name × List Name)) (m : Micro) {u : Trans}
    (hun : ∀ z, Sub c (protTop c u) z → (z ∈ m.exited → False) ∧ (z ∈ m.entered → z ∈ cfg))
    (hp : Pending c cfg0 cfg u) : Pending c cfg0 (applyMicro c (cfg, mem) m).1 u := by
  intro z hz
  rw [mem_applyMicro, ← hp z hz]
  exact ⟨fun h => h.elim And.left (hun z hz).2, fun h1 => Or.inl ⟨h1, (hun z hz).1⟩⟩

/-- applying the step of `t` does not disturb what is pending for a separated transition `u` -/
theorem pending_after_other (h : WFChart c) (cfg0 cfg : List Name) (mem : List (Name × List Name))
    (ev : Option Event) {t u : Trans} (hsep : Separated c t u) (hp : Pending c cfg0 cfg u) :
    Pending c cfg0 (applyMicro c (cfg, mem) (createStep c cfg0 ev t)).1 u := by
  obtain ⟨L, Rt, Ru, _, pt, pu, hne, st, su, tt, tu⟩ := hsep
  obtain ⟨_, _, hex, hen⟩ := prot_in c h cfg0 ev pt st tt
  obtain ⟨hPu, _, _, _⟩ := prot_in c h cfg0 ev pu su tu
  -- what `t` touches lies in its region, the protected subtree of `u` in another
  refine pending_of_untouched c cfg0 cfg mem _ (fun z hz => ?_) hp
  have hzu : Sub c Ru z := Sub.trans' hPu hz
  exact ⟨fun hx => siblings_disjoint c h.tree pt pu hne (hex z hx) hzu,
    fun hx => (siblings_disjoint c h.tree pt pu hne (hen z hx) hzu).elim⟩

theorem stab_pending_step (h : WFChart c) {cfg0 cfg : List Name} {mem : List (Name × List Name)}
    (hL0 : Legal c cfg0) (hS : Semi c cfg) (hM : MemOK c mem) {m : Micro}
    (hstep : stabilizationStep c mem cfg = some m)
    {u v : Trans} (hsep : Separated c u v) (hu0 : u.source ∈ cfg0) (hp : Pending c cfg0 cfg u) :
    Pending c cfg0 (applyMicro c (cfg, mem) m).1 u := by
  obtain ⟨L, Ru, Rv, hk, pu, _, _, su, _, tu, _⟩ := hsep
  obtain ⟨hPu, hPs, _, _⟩ := prot_in c h cfg0 none pu su tu
  have hP0 : protTop c u ∈ cfg0 := (legal_semi c h hL0).up_sub hPs hu0
  exact pending_of_untouched c cfg0 cfg mem m (stab_untouched c h hL0 hS hM hk pu hPu hP0 hp hstep) hp

/-- stabilisation while transitions are pending keeps the configuration semi-legal (never empty),
    the memory re-enterable and the pending transitions undisturbed -/
theorem stabChain_pending (h : WFChart c) {cfg0 : List Name} (hL0 : Legal c cfg0) (rem : List Trans)
    (hne : rem ≠ []) (hrem : ∀ u ∈ rem, u.source ∈ cfg0 ∧ ∃ v, Separated c u v) :
    ∀ (stab : List Micro) (cm : List Name × List (Name × List Name)),
      Semi c cm.1 → MemOK c cm.2 → (∀ u ∈ rem, Pending c cfg0 cm.1 u) → StabChain c cm stab →
      Semi c (applyMicros c cm stab).1 ∧ MemOK c (applyMicros c cm stab).2 ∧
        (∀ u ∈ rem, Pending c cfg0 (applyMicros c cm stab).1 u) := by
  intro stab cm hS hM hP hc
  refine stabChain_induction
    (P := fun cm => Semi c cm.1 ∧ MemOK c cm.2 ∧ ∀ u ∈ rem, Pending c cfg0 cm.1 u) ?_ stab cm ⟨hS, hM, hP⟩ hc
  rintro cm s ⟨hS, hM, hP⟩ hs
  have hP' : ∀ u ∈ rem, Pending c cfg0 (applyMicro c cm s).1 u := by
    intro u hu
    obtain ⟨hu0, v, hsep⟩ := hrem u hu
    exact stab_pending_step c h hL0 hS hM hs hsep hu0 (hP u hu)
  refine ⟨?_, memOK_applyMicro c h cm s hS hM, hP'⟩
  rcases stabilizationStep_semi c h hS hM hs with he | hS'
  · -- a pending transition keeps its source active: the configuration is not empty
    exfalso
    obtain ⟨u, hu⟩ := List.exists_mem_of_ne_nil rem hne
    obtain ⟨hu0, v, hsep⟩ := hrem u hu
    obtain ⟨L, Ru, Rv, _, pu, _, _, su, _, tu, _⟩ := hsep
    obtain ⟨_, hPs, _, _⟩ := prot_in c h cfg0 none pu su tu
    have := (hP' u hu u.source hPs).mpr hu0
    rw [he] at this; cases this
  · exact hS'

end Sismic

namespace Sismic

variable (c : Chart)

/-- **several transitions in one macro step**: the steps planned in `cfg0` for pairwise separated
    transitions, each followed by its stabilisation, keep the invariant -/
theorem runChain_multi (h : WFChart c) {cfg0 : List Name} (hL0 : Legal c cfg0) (ev : Option Event) :
    ∀ (rem : List Trans),
      (∀ u ∈ rem, u ∈ c.transitions ∧ u.source ∈ cfg0 ∧ ∃ v, Separated c u v) →
      rem.Pairwise (Separated c) →
      ∀ (cm : List Name × List (Name × List Name)) (ex : List Micro),
        Semi c cm.1 → MemOK c cm.2 → (∀ u ∈ rem, Pending c cfg0 cm.1 u) →
        RunChain c cm (rem.map (createStep c cfg0 ev)) ex → SInv c (applyMicros c cm ex) := by
  intro rem
  induction rem with
  | nil =>
    intro _ _ cm ex hS hM _ hc
    cases (hc : ex = [])
    exact ⟨Or.inr hS, hM⟩
  | cons t rem' ih =>
    intro hall hpw cm ex hS hM hP hc
    simp only [List.map_cons] at hc
    obtain ⟨a, stab, rest, rfl, hshape, hstab, hrest⟩ := hc
    have e1 : applyMicros c cm (a :: stab ++ rest) =
        applyMicros c (applyMicros c (applyMicro c cm (createStep c cfg0 ev t)) stab) rest := by
      simp only [applyMicros, List.foldl_cons, List.foldl_append, List.cons_append]
      rw [applyMicro_shape c cm a _ hshape]
    rw [e1]
    obtain ⟨htr, ht0, v, hsepv⟩ := hall t List.mem_cons_self
    -- the source is still active, and the exited subtree is as planned
    have hreg : Sub c (protTop c t) t.source := by
      obtain ⟨L, Rt, Rv, _, pt, _, _, st, _, tt, _⟩ := hsepv
      exact (prot_in c h cfg0 ev pt st tt).2.1
    have hs : t.source ∈ cm.1 := (hP t List.mem_cons_self t.source hreg).mpr ht0
    have hag : ∀ tg, t.target = some tg → ∀ z, Sub c (lastBefore c t.source (c.lca t.source tg)) z →
        (z ∈ cm.1 ↔ z ∈ cfg0) := by
      intro tg htg z hz
      apply hP t List.mem_cons_self z
      simp only [protTop, htg]
      exact hz
    have hS1 : Semi c (applyMicro c cm (createStep c cfg0 ev t)).1 :=
      createStep_semi_gen c h cm.2 hS htr hs ev hag
    have hM1 : MemOK c (applyMicro c cm (createStep c cfg0 ev t)).2 := memOK_applyMicro c h cm _ hS hM
    have hpw' := List.pairwise_cons.mp hpw
    have hP1 : ∀ u ∈ rem', Pending c cfg0 (applyMicro c cm (createStep c cfg0 ev t)).1 u := fun u hu =>
      pending_after_other c h cfg0 cm.1 cm.2 ev (hpw'.1 u hu) (hP u (List.mem_cons_of_mem _ hu))
    have hall' : ∀ u ∈ rem', u ∈ c.transitions ∧ u.source ∈ cfg0 ∧ ∃ v, Separated c u v :=
      fun u hu => hall u (List.mem_cons_of_mem _ hu)
    by_cases hr : rem' = []
    · subst hr
      cases (hrest : rest = [])
      simp only [applyMicros, List.foldl_nil]
      exact stabChain_inv c h stab _ ⟨Or.inr hS1, hM1⟩ hstab
    · obtain ⟨hS2, hM2, hP2⟩ := stabChain_pending c h hL0 rem' hr
        (fun w hw => ⟨(hall' w hw).2.1, (hall' w hw).2.2⟩) stab _ hS1 hM1 hP1 hstab
      exact ih hall' hpw'.2 _ rest hS2 hM2 hP2 hrest

end Sismic

namespace Sismic

variable (c : Chart)

theorem pairwise_of_pairs {α} (R : α → α → Prop) : ∀ l : List α, (∀ p ∈ pairs l, R p.1 p.2) → l.Pairwise R
  | [], _ => List.Pairwise.nil
  | x :: xs, h => by
    simp only [pairs, List.mem_append, List.mem_map] at h
    refine List.Pairwise.cons ?_ (pairwise_of_pairs R xs (fun p hp => h p (Or.inr hp)))
    intro y hy
    exact h (x, y) (Or.inl ⟨y, hy, rfl⟩)

theorem pairwise_partner {α} (R : α → α → Prop) (hsym : ∀ a b, R a b → R b a) :
    ∀ l : List α, 2 ≤ l.length → l.Pairwise R → ∀ a ∈ l, ∃ b, R a b
  | [], hl, _, _, _ => by simp at hl
  | [_], hl, _, _, _ => by simp at hl
  | x :: y :: r, _, hp, a, ha => by
    have hx := (List.pairwise_cons.mp hp).1
    rcases List.mem_cons.mp ha with rfl | ha
    · exact ⟨y, hx y List.mem_cons_self⟩
    · exact ⟨x, hsym _ _ (hx a ha)⟩

/-- the transitions `_sort_transitions` lets through, when there are several, are pairwise separated -/
theorem sort_separated (h : WFChart c) (sel ts : List Trans) (hs : sortTransitions c sel = .ok ts)
    (hlen : 2 ≤ sel.length)
    (hna : ∀ a ∈ sel, ∀ b ∈ sel, ¬ Anc c a.source b.source) :
    ts.Pairwise (Separated c) ∧ 2 ≤ ts.length := by
  obtain ⟨h1, _⟩ | ⟨_, hnd, hcf, rfl⟩ := (sortTransitions_ok c sel ts).mp hs
  · omega
  have hsel : sel.Pairwise (Separated c) := by
    apply pairwise_of_pairs
    intro p hp
    have hin := mem_pairs_mem sel p hp
    have h1 : nonDetPair c p.1 p.2 = false := by
      cases hx : nonDetPair c p.1 p.2 with
      | false => rfl
      | true => exact absurd ⟨p, hp, hx⟩ hnd
    have h2 : conflictPair c p.1 p.2 = false := by
      cases hx : conflictPair c p.1 p.2 with
      | false => rfl
      | true => exact absurd ⟨p, hp, hx⟩ hcf
    exact separated_of_checks c h p.1 p.2 h1 h2 (hna _ hin.1 _ hin.2) (hna _ hin.2 _ hin.1)
  have hperm := isort_perm (leTrans c) sel
  refine ⟨?_, by rw [hperm.length_eq]; exact hlen⟩
  exact hperm.symm.pairwise hsel (fun hab => hab.symm)

end Sismic

namespace Sismic

variable (c : Chart)

theorem runChain_single_induction {P : List Name × List (Name × List Name) → Prop}
    (step : ∀ cm s, P cm → stabilizationStep c cm.2 cm.1 = some s → P (applyMicro c cm s))
    (cm : List Name × List (Name × List Name)) (p : Micro) (ex : List Micro)
    (hp : P (applyMicro c cm p)) (hc : RunChain c cm [p] ex) : P (applyMicros c cm ex) := by
  obtain ⟨a, stab, rest, rfl, hshape, hstab, hrest⟩ := hc
  cases (hrest : rest = [])
  rw [List.append_nil, applyMicros_cons_shape c cm hshape]
  exact stabChain_induction step stab _ hp hstab

theorem runChain_single (h : WFChart c) (cm : List Name × List (Name × List Name)) (p : Micro) (ex : List Micro)
    (hp : SInv c (applyMicro c cm p)) (hc : RunChain c cm [p] ex) : SInv c (applyMicros c cm ex) :=
  runChain_single_induction c (sInv_stab_step c h) cm p ex hp hc

/-- **all the steps `_compute_steps` plans, each followed by its stabilisation, keep the invariant** -/
theorem planned_chain_inv {σ : Type} (h : WFChart c) (E : Evaluator σ) (st : IState σ)
    (computed ex : List Micro) (hp : planOf c E st = .ok computed)
    (hleg : st.config = [] ∨ Legal c st.config) (hM : MemOK c st.memory)
    (hc : RunChain c (st.config, st.memory) computed ex) :
    SInv c (applyMicros c (st.config, st.memory) ex) := by
  have hS0 : SInv c (st.config, st.memory) := ⟨hleg.imp id (legal_semi c h), hM⟩
  rcases planOf_ok c E st computed hp with (rfl | ⟨e, rfl⟩) | ⟨ts, ev, hne, hts, rfl⟩
  · cases (hc : ex = []); exact hS0
  · -- the event is consumed without a transition: the step changes nothing
    exact runChain_single c h _ { event := some e } ex hS0 hc
  · have hsel : ∀ t ∈ ts, t ∈ (selectTransitions c st.config ((peekEvent st).map (·.name))
        (guardOk E st (peekEvent st))).selected := fun t ht => (sortTransitions_mem c _ _ hts t).mp ht
    have hen : ∀ t ∈ ts, t ∈ c.transitions ∧ t.source ∈ st.config :=
      fun t ht => selected_enabled c _ _ _ t (hsel t ht)
    -- a selected transition has an active source, so the configuration is not empty
    obtain ⟨t0, ht0⟩ := List.exists_mem_of_ne_nil ts hne
    have hL0 : Legal c st.config := hleg.resolve_left fun he => by
      have := (hen t0 ht0).2; rw [he] at this; cases this
    have hS := legal_semi c h hL0
    cases ts with
    | nil => exact absurd rfl hne
    | cons t ts' =>
      cases ts' with
      | nil =>
        have ht := hen t List.mem_cons_self
        exact runChain_single c h _ _ ex
          ⟨Or.inr (createStep_semi c h st.memory hS ht.1 ht.2 _), memOK_applyMicro c h _ _ hS hM⟩ hc
      | cons u us =>
        -- inner-first selection: no source is an ancestor of another; so what is accepted is separated
        have hna : ∀ a ∈ (selectTransitions c st.config ((peekEvent st).map (·.name))
            (guardOk E st (peekEvent st))).selected, ∀ b ∈ (selectTransitions c st.config ((peekEvent st).map (·.name))
            (guardOk E st (peekEvent st))).selected, ¬ Anc c a.source b.source := by
          intro a ha b hb
          have fa := (select_iff_fires c st.config _ _ h.tree a).mp ha
          have fb := (select_iff_fires c st.config _ _ h.tree b).mp hb
          exact fa.2.1 b fb.1
        have hlen : 2 ≤ (t :: u :: us).length := Nat.le_add_left 2 us.length
        obtain ⟨hpw, _⟩ := sort_separated c h _ _ hts
          (by rw [← (sortTransitions_perm c _ _ hts).length_eq]; exact hlen) hna
        exact runChain_multi c h hL0 _ _
          (fun w hw => ⟨(hen w hw).1, (hen w hw).2, pairwise_partner _ (fun _ _ hab => hab.symm) _ hlen hpw w hw⟩)
          hpw _ ex hS hM (fun _ _ _ _ => Iff.rfl) hc

end Sismic
