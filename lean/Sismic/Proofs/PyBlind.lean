import Sismic.Proofs.Sim
import Sismic.Model.Py
/-!
# Sismic.Proofs.PyBlind — the model of `PythonEvaluator` is blind to the `__old__` store

Guards and executed code read the context variables only; the frozen contexts (`_memory`) are read
by postconditions and invariants alone.  This discharges the hypothesis of the C09 simulation
theorem for the evaluator the tie runs.
-/
namespace Sismic

/-- equal except for the frozen `__old__` contexts -/
def sameVars (a x : PyCtx) : Prop := a.vars = x.vars ∧ a.unsupported = x.unsupported

theorem pyEvaluator_blind : Blind pyEvaluator sameVars where
  guard := by
    intro s x ⟨hv, _⟩ t ev
    show pyGuard { s with ctx := x } t ev = pyGuard s t ev
    unfold pyGuard
    cases t.guard with
    | none => rfl
    | some code =>
      simp only [pyEval, viewEnv, ← hv]
  exec := by
    intro s x ⟨hv, hu⟩ k ev
    show (pyExec { s with ctx := x } k ev).2 = (pyExec s k ev).2 ∧
      sameVars (pyExec s k ev).1 (pyExec { s with ctx := x } k ev).1
    unfold pyExec
    simp only [viewEnv, ← hv, ← hu]
    split
    · exact ⟨rfl, hv, hu⟩
    · next code _ =>
      by_cases hc : code.unsupported = true
      · rw [if_pos hc, if_pos hc]; exact ⟨rfl, rfl, rfl⟩
      · rw [if_neg hc, if_neg hc]; exact ⟨rfl, rfl, rfl⟩
  freeze := by
    intro a x obj ⟨hv, hu⟩
    exact ⟨hv, hu⟩

end Sismic
