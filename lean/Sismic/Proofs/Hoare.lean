import Sismic.Proofs.Lists
/-!
# Sismic.Proofs.Hoare — reasoning principles for the state-and-error monad `M`
-/
namespace Sismic

theorem rel_ite {α β : Sort _} {R : α → β → Prop} (c : Prop) [Decidable c] {a₁ a₂ : α} {b₁ b₂ : β}
    (h₁ : R a₁ b₁) (h₂ : R a₂ b₂) : R (if c then a₁ else a₂) (if c then b₁ else b₂) := by
  split <;> assumption

namespace M
variable {σ ω α β γ : Type}

@[simp] theorem bind_def (x : M σ ω α) (f : α → M σ ω β) : (x >>= f) = M.bind x f := rfl
@[simp] theorem pure_def (a : α) : (Pure.pure a : M σ ω α) = M.pure a := rfl

theorem bind_ok {x : M σ ω α} {f : α → M σ ω β} {rs rs'' : RS σ ω} {b : β} :
    M.bind x f rs = (.ok b, rs'') ↔ ∃ a rs', x rs = (.ok a, rs') ∧ f a rs' = (.ok b, rs'') := by
  unfold M.bind
  constructor
  · intro h
    split at h
    · next a rs' hx => exact ⟨a, rs', hx, h⟩
    · next e rs' hx => cases h
  · rintro ⟨a, rs', hx, hf⟩
    simp [hx, hf]

theorem bind_error {x : M σ ω α} {f : α → M σ ω β} {rs rs'' : RS σ ω} {e : Err} :
    M.bind x f rs = (.error e, rs'') ↔
      x rs = (.error e, rs'') ∨ ∃ a rs', x rs = (.ok a, rs') ∧ f a rs' = (.error e, rs'') := by
  unfold M.bind
  constructor
  · intro h
    split at h
    · next a rs' hx => exact Or.inr ⟨a, rs', hx, h⟩
    · next e' rs' hx =>
      simp only [Prod.mk.injEq, Except.error.injEq] at h
      obtain ⟨rfl, rfl⟩ := h
      exact Or.inl hx
  · rintro (hx | ⟨a, rs', hx, hf⟩)
    · simp [hx]
    · simp [hx, hf]

theorem pure_ok {a b : α} {rs rs' : RS σ ω} : M.pure a rs = (.ok b, rs') ↔ a = b ∧ rs = rs' := by
  simp [M.pure]

theorem pure_error {a : α} {rs rs' : RS σ ω} {e : Err} : M.pure a rs = (.error e, rs') ↔ False := by
  simp [M.pure]

theorem throw_ok {e : Err} {b : α} {rs rs' : RS σ ω} : (M.throw e : M σ ω α) rs = (.ok b, rs') ↔ False := by
  simp [M.throw]

theorem throw_error {e e' : Err} {rs rs' : RS σ ω} :
    (M.throw e : M σ ω α) rs = (.error e', rs') ↔ e = e' ∧ rs = rs' := by
  simp [M.throw]

theorem get_ok {st : IState σ} {rs rs' : RS σ ω} : (M.get : M σ ω _) rs = (.ok st, rs') ↔ rs.st = st ∧ rs = rs' := by
  simp [M.get]

theorem modify_ok {f : IState σ → IState σ} {u : Unit} {rs rs' : RS σ ω} :
    (M.modify f : M σ ω _) rs = (.ok u, rs') ↔ rs' = { rs with st := f rs.st } := by
  simp [M.modify]; exact eq_comm

theorem emit_ok {e : Effect} {u : Unit} {rs rs' : RS σ ω} :
    (M.emit e : M σ ω _) rs = (.ok u, rs') ↔ rs' = { rs with eff := rs.eff ++ [e] } := by
  simp [M.emit]; exact eq_comm

/-- `m` relates the state before and the state after by `R`, for every outcome -/
def Rel (R : RS σ ω → RS σ ω → Prop) (m : M σ ω α) : Prop := ∀ rs, R rs (m rs).2

structure PreOrd (R : RS σ ω → RS σ ω → Prop) : Prop where
  refl : ∀ a, R a a
  trans : ∀ a b c, R a b → R b c → R a c

/-- "`f` is what it was" -/
theorem PreOrd.ofEq {β : Type} (f : RS σ ω → β) : PreOrd (fun rs rs' : RS σ ω => f rs' = f rs) :=
  ⟨fun _ => rfl, fun _ _ _ h1 h2 => h2.trans h1⟩

theorem Rel.of_eq {R : RS σ ω → RS σ ω → Prop} {m : M σ ω α} {rs rs' : RS σ ω} {x : Except Err α}
    (h : m rs = (x, rs')) (hm : Rel R m) : R rs rs' := by
  have := hm rs; rw [h] at this; exact this

theorem Rel.pure {R : RS σ ω → RS σ ω → Prop} (h : PreOrd R) (a : α) : Rel R (M.pure a : M σ ω α) :=
  fun rs => h.refl rs

theorem Rel.throw {R : RS σ ω → RS σ ω → Prop} (h : PreOrd R) (e : Err) : Rel R (M.throw e : M σ ω α) :=
  fun rs => h.refl rs

theorem Rel.get {R : RS σ ω → RS σ ω → Prop} (h : PreOrd R) : Rel R (M.get : M σ ω _) :=
  fun rs => h.refl rs

/-- sequencing when the two parts respect different relations: `R` then `S` is within `T`, and so is
    `R` alone (the first part may raise) -/
theorem Rel.seq {R S T : RS σ ω → RS σ ω → Prop} (hcomp : ∀ a b c, R a b → S b c → T a c)
    (hstop : ∀ a b, R a b → T a b) {x : M σ ω α} {f : α → M σ ω β}
    (hx : Rel R x) (hf : ∀ a, Rel S (f a)) : Rel T (M.bind x f) := by
  intro rs
  unfold M.bind
  have h1 := hx rs
  split
  · next a rs' heq =>
    rw [heq] at h1
    exact hcomp _ _ _ h1 (hf a rs')
  · next e rs' heq =>
    rw [heq] at h1
    exact hstop _ _ h1

theorem Rel.bind {R : RS σ ω → RS σ ω → Prop} (h : PreOrd R) {x : M σ ω α} {f : α → M σ ω β}
    (hx : Rel R x) (hf : ∀ a, Rel R (f a)) : Rel R (M.bind x f) :=
  Rel.seq h.trans (fun _ _ h => h) hx hf

theorem Rel.forEach {R : RS σ ω → RS σ ω → Prop} (h : PreOrd R) {f : γ → M σ ω Unit}
    (hf : ∀ a, Rel R (f a)) : ∀ l : List γ, Rel R (M.forEach f l)
  | [] => Rel.pure h ()
  | x :: xs => Rel.bind h (hf x) (fun _ => Rel.forEach h hf xs)

theorem Rel.ite {R : RS σ ω → RS σ ω → Prop} {c : Prop} [Decidable c] {x y : M σ ω α}
    (hx : Rel R x) (hy : Rel R y) : Rel R (if c then x else y) := by
  split <;> assumption

end M
end Sismic
