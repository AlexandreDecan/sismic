import Sismic.Proofs.Lists
/-!
# Sismic.Proofs.Sort — insertion sort, the key orders of the interpreter, `_sort_transitions`

`isort` is a sorted permutation; sorting by an order that is antisymmetric on the elements present
does not depend on the order of the input (`isort_canonical`).  The orders the code sorts by —
(depth, name), (−depth, name), name — are total orders (`TotalLE`).  `sortTransitions` is
characterised outcome by outcome (`sortTransitions_ok / _nonDet / _conflict`); every other file
reasons about it through these.
-/
namespace Sismic

/-! ### insertion sort -/

theorem insSorted_perm {α} (le : α → α → Bool) (x : α) : ∀ l : List α, (insSorted le x l).Perm (x :: l)
  | [] => List.Perm.refl _
  | y :: ys => by
    simp only [insSorted]
    split
    · exact List.Perm.refl _
    · exact ((insSorted_perm le x ys).cons y).trans (List.Perm.swap x y ys)

theorem isort_perm {α} (le : α → α → Bool) : ∀ l : List α, (isort le l).Perm l
  | [] => List.Perm.refl _
  | x :: xs => by
    show (insSorted le x (isort le xs)).Perm (x :: xs)
    exact (insSorted_perm le x _).trans ((isort_perm le xs).cons x)

theorem mem_isort {α} (le : α → α → Bool) (l : List α) (a : α) : a ∈ isort le l ↔ a ∈ l :=
  (isort_perm le l).mem_iff

theorem insSorted_sorted {α} (le : α → α → Bool)
    (total : ∀ a b, le a b = true ∨ le b a = true) (trans : ∀ a b c, le a b = true → le b c = true → le a c = true)
    (x : α) : ∀ l : List α, l.Pairwise (fun a b => le a b = true) → (insSorted le x l).Pairwise (fun a b => le a b = true)
  | [], _ => by simp [insSorted]
  | y :: ys, h => by
    simp only [insSorted]
    split
    · next hxy =>
      refine List.Pairwise.cons ?_ h
      intro z hz
      rcases List.mem_cons.mp hz with rfl | hz
      · exact hxy
      · exact trans _ _ _ hxy ((List.pairwise_cons.mp h).1 z hz)
    · next hxy =>
      have hyx : le y x = true := (total x y).resolve_left hxy
      refine List.Pairwise.cons ?_ (insSorted_sorted le total trans x ys (List.pairwise_cons.mp h).2)
      intro z hz
      rcases List.mem_cons.mp ((insSorted_perm le x ys).mem_iff.mp hz) with rfl | hz
      · exact hyx
      · exact (List.pairwise_cons.mp h).1 z hz

theorem isort_sorted {α} (le : α → α → Bool)
    (total : ∀ a b, le a b = true ∨ le b a = true) (trans : ∀ a b c, le a b = true → le b c = true → le a c = true) :
    ∀ l : List α, (isort le l).Pairwise (fun a b => le a b = true)
  | [] => List.Pairwise.nil
  | x :: xs => insSorted_sorted le total trans x _ (isort_sorted le total trans xs)

theorem isort_canonical {α} (le : α → α → Bool)
    (total : ∀ a b, le a b = true ∨ le b a = true) (trans : ∀ a b c, le a b = true → le b c = true → le a c = true)
    (l l' : List α) (anti : ∀ a b, a ∈ l → b ∈ l → le a b = true → le b a = true → a = b)
    (hp : l.Perm l') : isort le l = isort le l' := by
  apply List.Perm.eq_of_pairwise (le := fun a b => le a b = true)
  · intro a b ha hb
    exact anti a b ((mem_isort le l a).mp ha) (hp.mem_iff.mpr ((mem_isort le l' b).mp hb))
  · exact isort_sorted le total trans l
  · exact isort_sorted le total trans l'
  · exact (isort_perm le l).trans (hp.trans (isort_perm le l').symm)

/-! ### total orders given as a Boolean `le` -/

structure TotalLE {κ} (le : κ → κ → Bool) : Prop where
  total : ∀ a b, le a b = true ∨ le b a = true
  antisymm : ∀ a b, le a b = true → le b a = true → a = b
  trans : ∀ a b c, le a b = true → le b c = true → le a c = true

theorem TotalLE.isort_sorted {κ} {le : κ → κ → Bool} (h : TotalLE le) (l : List κ) :
    (isort le l).Pairwise (fun a b => le a b = true) :=
  Sismic.isort_sorted le h.total h.trans l

theorem TotalLE.isort_eq_of_perm {κ} {le : κ → κ → Bool} (h : TotalLE le) {l l' : List κ} (hp : l.Perm l') :
    isort le l = isort le l' :=
  isort_canonical le h.total h.trans l l' (fun a b _ _ => h.antisymm a b) hp

/-- names ordered by a numeric key compared with `r` (`<` or `>`), ties by name: both
    `leDepthName` and `leRevDepthName` have this shape -/
theorem totalLE_lex (k : Name → Nat) (r : Nat → Nat → Prop) [DecidableRel r]
    (tri : ∀ m n, r m n ∨ m = n ∨ r n m) (asymm : ∀ m n, r m n → ¬ r n m)
    (rtrans : ∀ l m n, r l m → r m n → r l n) :
    TotalLE (fun a b : Name => decide (r (k a) (k b) ∨ (k a = k b ∧ a ≤ b))) where
  total a b := by
    simp only [decide_eq_true_eq]
    rcases tri (k a) (k b) with h | h | h
    · exact Or.inl (Or.inl h)
    · exact (String.le_total a b).imp (fun h' => Or.inr ⟨h, h'⟩) (fun h' => Or.inr ⟨h.symm, h'⟩)
    · exact Or.inr (Or.inl h)
  antisymm a b := by
    simp only [decide_eq_true_eq]
    rintro (h1 | ⟨e1, h1⟩) (h2 | ⟨e2, h2⟩)
    · exact absurd h2 (asymm _ _ h1)
    · exact absurd (e2 ▸ h1) (asymm _ _ h1)
    · exact absurd (e1 ▸ h2) (asymm _ _ h2)
    · exact String.le_antisymm h1 h2
  trans a b d := by
    simp only [decide_eq_true_eq]
    rintro (h1 | ⟨e1, h1⟩) (h2 | ⟨e2, h2⟩)
    · exact Or.inl (rtrans _ _ _ h1 h2)
    · exact Or.inl (e2 ▸ h1)
    · exact Or.inl (e1 ▸ h2)
    · exact Or.inr ⟨e1.trans e2, String.le_trans h1 h2⟩

theorem leDepthName_total (c : Chart) : TotalLE c.leDepthName :=
  totalLE_lex c.depth (· < ·) Nat.lt_trichotomy (fun _ _ => Nat.lt_asymm) (fun _ _ _ => Nat.lt_trans)

theorem leRevDepthName_total (c : Chart) : TotalLE c.leRevDepthName :=
  totalLE_lex c.depth (· > ·) (fun m n => (Nat.lt_trichotomy n m).imp_right (Or.imp_left Eq.symm))
    (fun _ _ => Nat.lt_asymm) (fun _ _ _ h1 h2 => Nat.lt_trans h2 h1)

theorem leName_total : TotalLE leName where
  total a b := by simp only [leName, decide_eq_true_eq]; exact String.le_total a b
  antisymm a b := by simp only [leName, decide_eq_true_eq]; exact String.le_antisymm
  trans a b d := by simp only [leName, decide_eq_true_eq]; exact String.le_trans

/-! ### `pairs` -/

theorem mem_pairs_of_mem {α} : ∀ (l : List α) (a b : α), a ∈ l → b ∈ l →
    a = b ∨ (a, b) ∈ pairs l ∨ (b, a) ∈ pairs l
  | [], _, _, h, _ => absurd h (by simp)
  | x :: xs, a, b, ha, hb => by
    simp only [pairs, List.mem_append, List.mem_map]
    rcases List.mem_cons.mp ha with hax | ha' <;> rcases List.mem_cons.mp hb with hbx | hb'
    · exact Or.inl (hax.trans hbx.symm)
    · exact Or.inr (Or.inl (Or.inl ⟨b, hb', by rw [hax]⟩))
    · exact Or.inr (Or.inr (Or.inl ⟨a, ha', by rw [hbx]⟩))
    · rcases mem_pairs_of_mem xs a b ha' hb' with h | h | h
      · exact Or.inl h
      · exact Or.inr (Or.inl (Or.inr h))
      · exact Or.inr (Or.inr (Or.inr h))

theorem mem_pairs_mem {α} : ∀ (l : List α) (p : α × α), p ∈ pairs l → p.1 ∈ l ∧ p.2 ∈ l
  | [], p, h => by simp [pairs] at h
  | x :: xs, p, h => by
    simp only [pairs, List.mem_append, List.mem_map] at h
    rcases h with ⟨y, hy, rfl⟩ | h
    · exact ⟨List.mem_cons_self, List.mem_cons_of_mem _ hy⟩
    · have := mem_pairs_mem xs p h
      exact ⟨List.mem_cons_of_mem _ this.1, List.mem_cons_of_mem _ this.2⟩

theorem pairs_map {α β : Type} (f : α → β) : ∀ l : List α, pairs (l.map f) = (pairs l).map (fun p => (f p.1, f p.2))
  | [] => rfl
  | x :: xs => by
    simp only [List.map_cons, pairs, List.map_append, List.map_map, pairs_map f xs]
    rfl

theorem perm_eq_of_length_le_one {α} {l l' : List α} (hp : l'.Perm l) (h : l.length ≤ 1) : l' = l := by
  match l, h with
  | [], _ => exact hp.eq_nil
  | [a], _ => exact List.perm_singleton.mp hp

/-! ### `_sort_transitions`, outcome by outcome -/

theorem same_source_nonDet (c : Chart) (a b : Trans) (h : a.source = b.source) : nonDetPair c a b = true := by
  simp [nonDetPair, h]

theorem sortTransitions_eq (c : Chart) (ts : List Trans) : sortTransitions c ts =
    if ts.length ≤ 1 then .ok ts
    else if ∃ p ∈ pairs ts, nonDetPair c p.1 p.2 = true then .error .nonDeterminism
    else if ∃ p ∈ pairs ts, conflictPair c p.1 p.2 = true then .error .conflicting
    else .ok (isort (leTrans c) ts) := by
  simp only [sortTransitions, List.any_eq_true]

theorem sortTransitions_nonDet (c : Chart) (ts : List Trans) :
    sortTransitions c ts = .error .nonDeterminism ↔
      1 < ts.length ∧ ∃ p ∈ pairs ts, nonDetPair c p.1 p.2 = true := by
  rw [sortTransitions_eq]
  by_cases h1 : ts.length ≤ 1
  · rw [if_pos h1]; exact ⟨nofun, fun h => by omega⟩
  · rw [if_neg h1]
    by_cases h2 : ∃ p ∈ pairs ts, nonDetPair c p.1 p.2 = true
    · rw [if_pos h2]; exact ⟨fun _ => ⟨by omega, h2⟩, fun _ => rfl⟩
    · rw [if_neg h2]; exact ⟨by split <;> nofun, fun h => absurd h.2 h2⟩

theorem sortTransitions_conflict (c : Chart) (ts : List Trans) :
    sortTransitions c ts = .error .conflicting ↔
      1 < ts.length ∧ (¬ ∃ p ∈ pairs ts, nonDetPair c p.1 p.2 = true) ∧
      ∃ p ∈ pairs ts, conflictPair c p.1 p.2 = true := by
  rw [sortTransitions_eq]
  by_cases h1 : ts.length ≤ 1
  · rw [if_pos h1]; exact ⟨nofun, fun h => by omega⟩
  · rw [if_neg h1]
    by_cases h2 : ∃ p ∈ pairs ts, nonDetPair c p.1 p.2 = true
    · rw [if_pos h2]; exact ⟨nofun, fun h => absurd h2 h.2.1⟩
    · rw [if_neg h2]
      by_cases h3 : ∃ p ∈ pairs ts, conflictPair c p.1 p.2 = true
      · rw [if_pos h3]; exact ⟨fun _ => ⟨by omega, h2, h3⟩, fun _ => rfl⟩
      · rw [if_neg h3]; exact ⟨nofun, fun h => absurd h.2.2 h3⟩

theorem sortTransitions_ok (c : Chart) (ts ts' : List Trans) :
    sortTransitions c ts = .ok ts' ↔
      (ts.length ≤ 1 ∧ ts' = ts) ∨
      (1 < ts.length ∧ (¬ ∃ p ∈ pairs ts, nonDetPair c p.1 p.2 = true) ∧
        (¬ ∃ p ∈ pairs ts, conflictPair c p.1 p.2 = true) ∧ ts' = isort (leTrans c) ts) := by
  rw [sortTransitions_eq]
  by_cases h1 : ts.length ≤ 1
  · rw [if_pos h1]
    exact ⟨fun h => .inl ⟨h1, (Except.ok.inj h).symm⟩, fun h => h.elim (fun h => h.2 ▸ rfl) (fun h => by omega)⟩
  · rw [if_neg h1]
    by_cases h2 : ∃ p ∈ pairs ts, nonDetPair c p.1 p.2 = true
    · rw [if_pos h2]; exact ⟨nofun, fun h => h.elim (fun h => absurd h.1 h1) (fun h => absurd h2 h.2.1)⟩
    · rw [if_neg h2]
      by_cases h3 : ∃ p ∈ pairs ts, conflictPair c p.1 p.2 = true
      · rw [if_pos h3]; exact ⟨nofun, fun h => h.elim (fun h => absurd h.1 h1) (fun h => absurd h3 h.2.2.1)⟩
      · rw [if_neg h3]
        exact ⟨fun h => .inr ⟨by omega, h2, h3, (Except.ok.inj h).symm⟩,
          fun h => h.elim (fun h => absurd h.1 h1) (fun h => h.2.2.2 ▸ rfl)⟩

theorem sortTransitions_perm (c : Chart) (ts r : List Trans) (h : sortTransitions c ts = .ok r) : r.Perm ts := by
  rcases (sortTransitions_ok c ts r).mp h with ⟨_, rfl⟩ | ⟨_, _, _, rfl⟩
  · exact List.Perm.refl _
  · exact isort_perm _ _

theorem sortTransitions_mem (c : Chart) (ts r : List Trans) (h : sortTransitions c ts = .ok r) (t : Trans) :
    t ∈ r ↔ t ∈ ts :=
  (sortTransitions_perm c ts r h).mem_iff

/-- without a non-deterministic pair the sort key (−depth, source) is injective on the list,
    so the sorted list depends on the elements only -/
theorem isort_leTrans_eq_of_perm (c : Chart) {ts ts' : List Trans} (hp : ts.Perm ts')
    (hnd : ¬ ∃ p ∈ pairs ts, nonDetPair c p.1 p.2 = true) :
    isort (leTrans c) ts = isort (leTrans c) ts' := by
  apply isort_canonical (leTrans c) (fun a b => (leRevDepthName_total c).total _ _)
    (fun a b d => (leRevDepthName_total c).trans _ _ _) ts ts' _ hp
  intro a b ha hb h1 h2
  have hs : a.source = b.source := (leRevDepthName_total c).antisymm _ _ h1 h2
  rcases mem_pairs_of_mem ts a b ha hb with e | e | e
  · exact e
  · exact absurd ⟨(a, b), e, same_source_nonDet c a b hs⟩ hnd
  · exact absurd ⟨(b, a), e, same_source_nonDet c b a hs.symm⟩ hnd

end Sismic
