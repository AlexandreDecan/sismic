import Sismic.Proofs.ChartPerm
import Sismic.Proofs.EditInv
import Sismic.Proofs.WFCheck
/-!
# Sismic.Proofs.Rename — `rename_state` is the substitution of one name, up to declaration order

`(c.renameState a b).2` and `c.mapNames (renameIn a b)` are the same statechart declared in
another order (`ChartPerm`): together with C07 (declaration order is behaviourally invisible) this
reduces "renaming changes nothing but the name" to the equivariance of the interpreter under
`mapNames`.
-/
namespace Sismic

/-- the statechart with every occurrence of a state name substituted -/
def Chart.mapNames (ρ : Name → Name) (c : Chart) : Chart :=
  { c with states := c.states.map (StateDef.rename ρ),
           parent := c.parent.map (fun p => (ρ p.1, p.2.map ρ)),
           children := c.children.map (fun p => (p.1.map ρ, p.2.map ρ)),
           transitions := c.transitions.map (fun t => { t with source := ρ t.source, target := t.target.map ρ }) }

/-- what the editing operations keep true of the three dictionaries -/
structure Tidy (c : Chart) : Prop where
  names : (c.states.map (·.name)).Nodup
  parentKeys : (c.parent.map (·.1)).Nodup
  childKeys : (c.children.map (·.1)).Nodup
  parentKeysStates : ∀ k, k ∈ c.parent.map (·.1) → c.hasState k = true
  statesHaveEntry : ∀ k, c.hasState k = true → k ∈ c.parent.map (·.1)
  childKeysStates : ∀ k, some k ∈ c.children.map (·.1) → c.hasState k = true
  statesHaveChildEntry : ∀ k, c.hasState k = true → some k ∈ c.children.map (·.1)
  oneRoot : ∀ e ∈ c.parent, ∀ e' ∈ c.parent, e.2 = none → e'.2 = none → e = e'
  childParent : ∀ p ch, ch ∈ c.childrenFor p ↔ c.parentFor ch = some p
  childrenNodup : ∀ p, (c.childrenFor p).Nodup
  noSelf : ∀ n, c.parentFor n ≠ some n

open Chart

theorem rename_of_ne (a b : Name) (s : StateDef) (h : s.name ≠ a) :
    StateDef.rename (renameIn a b) s = reref a b s := by
  rw [reref_eq]
  exact congrArg (fun n => ({ StateDef.rename (renameIn a b) s with name := n } : StateDef)) (renameIn_ne h)

theorem rename_at (a b : Name) (s : StateDef) (h : s.name = a) :
    StateDef.rename (renameIn a b) s = { reref a b s with name := b } := by
  rw [reref_eq]
  exact congrArg (fun n => ({ StateDef.rename (renameIn a b) s with name := n } : StateDef))
    (show renameIn a b s.name = b by rw [h, renameIn_self])

theorem renameState_fields (c : Chart) (a b : Name) (h : (c.renameState a b).1 = .ok ()) (hne : a ≠ b) :
    (c.renameState a b).2.parent =
      assocErase a (c.reparented a b).parent ++ [(b, (c.reparented a b).parentFor a)] ∧
    (c.renameState a b).2.children =
      assocErase (some a) (c.relisted a b).children ++ [(some b, (c.relisted a b).childrenFor a)] := by
  rw [(renameState_ok c a b h hne).1]
  exact ⟨rfl, rfl⟩

/-- the parent looked up after the parents were rewritten is the old one: nobody is its own parent -/
theorem renamed_pn (c : Chart) (a b : Name) (ht : Tidy c) : (c.reparented a b).parentFor a = c.parentFor a := by
  have hs := ht.noSelf a
  unfold Chart.parentFor Chart.reparented at *
  dsimp only
  rw [find?_map_key (key := fun (p : Name × Option Name) => p.1) (fun p => (p.1, if p.2 == some a then some b else p.2)) (fun _ => rfl) a]
  cases hf : c.parent.find? (fun p => p.1 == a) with
  | none => rfl
  | some x =>
    obtain ⟨k, v⟩ := x
    rw [hf] at hs
    simp only at hs
    simp only [Option.map_some]
    split
    · next e => exact absurd (by simpa using e) hs
    · rfl

theorem relisted_children (c : Chart) (a b : Name) (ht : Tidy c) :
    (c.relisted a b).children = assocModify (c.parentFor a) (fun l => l.erase a ++ [b]) c.children := by
  unfold Chart.relisted
  rw [renamed_pn c a b ht]

theorem rename_states_perm (c : Chart) (a b : Name) (ht : (c.states.map (·.name)).Nodup) (h : (c.renameState a b).1 = .ok ()) (hne : a ≠ b) :
    (c.renameState a b).2.states.Perm (c.mapNames (renameIn a b)).states := by
  obtain ⟨_, hha, hst⟩ := renameState_states c a b h hne
  rw [hst]
  obtain ⟨sa, hsa⟩ : ∃ sa, c.states.find? (fun s => s.name == a) = some sa := (hasState_iff_stateFor c a).mp hha
  have hmem := List.mem_of_find?_eq_some hsa
  have hname : sa.name = a := (stateFor_mem c a sa hsa).2
  rw [find?_map_key (key := fun (s : StateDef) => s.name) _ (reref_name a b) a, hsa]
  simp only [Option.map_some, Option.toList_some]
  rw [← rename_at a b sa hname]
  exact perm_filter_append (fun (s : StateDef) => s.name) a (StateDef.rename (renameIn a b)) (reref a b) c.states sa ht hmem hname
    (reref_name a b) (fun y _ hy => (rename_of_ne a b y hy).symm)

theorem rename_parent_perm (c : Chart) (a b : Name) (ht : Tidy c) (h : (c.renameState a b).1 = .ok ()) (hne : a ≠ b) :
    (c.renameState a b).2.parent.Perm (c.mapNames (renameIn a b)).parent := by
  obtain ⟨_, hha, _⟩ := renameState_states c a b h hne
  rw [(renameState_fields c a b h hne).1]
  have hk : a ∈ c.parent.map (·.1) := ht.statesHaveEntry a hha
  let g : Name × Option Name → Name × Option Name := fun p => (p.1, if p.2 == some a then some b else p.2)
  let f : Name × Option Name → Name × Option Name := fun p => (renameIn a b p.1, p.2.map (renameIn a b))
  have hg : ∀ y, (g y).1 = y.1 := fun _ => rfl
  have hfg : ∀ y ∈ c.parent, y.1 ≠ a → g y = f y := by
    intro y _ hy
    simp only [g, f, renameIn_ne hy, renameIn_opt]
  have hkeys : ((c.parent.map g).map (fun (p : Name × Option Name) => p.1)).Nodup := by
    rw [List.map_map]; exact ht.parentKeys
  have herase : assocErase a (c.parent.map g) = (c.parent.map g).filter (fun p => p.1 != a) := by
    unfold assocErase
    exact eraseFirst_eq_filter (fun (p : Name × Option Name) => p.1) a _ hkeys
  obtain ⟨x, hx, hxa⟩ := List.mem_map.mp hk
  have hfind : (c.parent.map g).find? (fun p => p.1 == a) = some (g x) := by
    rw [find?_map_key g hg a, ← hxa, find?_of_mem_key (fun (p : Name × Option Name) => p.1) ht.parentKeys hx]
    rfl
  show (assocErase a (c.parent.map g) ++ [(b, match (c.parent.map g).find? (fun (p : Name × Option Name) => p.1 == a) with
      | some (_, q) => q
      | none => none)]).Perm (c.parent.map f)
  rw [herase, hfind]
  have : (b, (g x).2) = f x := by
    simp only [g, f, hxa, renameIn_self, renameIn_opt]
  simp only
  rw [this]
  exact perm_filter_append (fun (p : Name × Option Name) => p.1) a f g c.parent x ht.parentKeys hx hxa hg hfg

theorem parentFor_of_not_key (c : Chart) (n : Name) (h : n ∉ c.parent.map (·.1)) : c.parentFor n = none := by
  unfold Chart.parentFor
  rw [find?_none_of_not_key n c.parent h]

theorem key_of_parentFor (c : Chart) (n q : Name) (h : c.parentFor n = some q) : n ∈ c.parent.map (·.1) :=
  List.mem_map.mpr ⟨_, parentFor_mem c n q h, rfl⟩

theorem key_of_child (c : Chart) (q ch : Name) (h : ch ∈ c.childrenFor q) : some q ∈ c.children.map (·.1) :=
  let ⟨_, hl, _⟩ := childrenFor_mem c q ch h
  List.mem_map.mpr ⟨_, hl, rfl⟩

theorem Tidy.parent_states {c : Chart} (ht : Tidy c) (s p : Name) (h : c.parentFor s = some p) :
    c.hasState s = true ∧ c.hasState p = true :=
  ⟨ht.parentKeysStates s (key_of_parentFor c s p h),
    ht.childKeysStates p (key_of_child c p s ((ht.childParent p s).2 h))⟩

/-- the keys of `_parent` and `_children` are the state names `N`, each once -/
structure KeysOK (N PK : List Name) (CK : List (Option Name)) : Prop where
  names : N.Nodup
  parentKeys : PK.Nodup
  childKeys : CK.Nodup
  parent : ∀ k, k ∈ PK ↔ k ∈ N
  child : ∀ k, some k ∈ CK ↔ k ∈ N

theorem Tidy.keysOK {c : Chart} (ht : Tidy c) :
    KeysOK (c.states.map (·.name)) (c.parent.map (·.1)) (c.children.map (·.1)) where
  names := ht.names
  parentKeys := ht.parentKeys
  childKeys := ht.childKeys
  parent k := by rw [← hasState_iff_mem]; exact ⟨ht.parentKeysStates k, ht.statesHaveEntry k⟩
  child k := by rw [← hasState_iff_mem]; exact ⟨ht.childKeysStates k, ht.statesHaveChildEntry k⟩

theorem Tidy.of_keysOK {c : Chart} (hk : KeysOK (c.states.map (·.name)) (c.parent.map (·.1)) (c.children.map (·.1)))
    (oneRoot : ∀ e ∈ c.parent, ∀ e' ∈ c.parent, e.2 = none → e'.2 = none → e = e')
    (childParent : ∀ p ch, ch ∈ c.childrenFor p ↔ c.parentFor ch = some p)
    (childrenNodup : ∀ p, (c.childrenFor p).Nodup) (noSelf : ∀ n, c.parentFor n ≠ some n) : Tidy c where
  names := hk.names
  parentKeys := hk.parentKeys
  childKeys := hk.childKeys
  parentKeysStates k h := (hasState_iff_mem c k).mpr ((hk.parent k).mp h)
  statesHaveEntry k h := (hk.parent k).mpr ((hasState_iff_mem c k).mp h)
  childKeysStates k h := (hasState_iff_mem c k).mpr ((hk.child k).mp h)
  statesHaveChildEntry k h := (hk.child k).mpr ((hasState_iff_mem c k).mp h)
  oneRoot := oneRoot
  childParent := childParent
  childrenNodup := childrenNodup
  noSelf := noSelf

theorem KeysOK.append {N PK : List Name} {CK : List (Option Name)} (h : KeysOK N PK CK) {x : Name} (hx : x ∉ N) :
    KeysOK (N ++ [x]) (PK ++ [x]) (CK ++ [some x]) where
  names := nodup_concat_of_not_mem h.names hx
  parentKeys := nodup_concat_of_not_mem h.parentKeys (fun hm => hx ((h.parent x).mp hm))
  childKeys := nodup_concat_of_not_mem h.childKeys (fun hm => hx ((h.child x).mp hm))
  parent k := by simp only [List.mem_append, List.mem_singleton, h.parent k]
  child k := by simp only [List.mem_append, List.mem_singleton, h.child k, Option.some.injEq]

theorem KeysOK.filter {N PK : List Name} {CK : List (Option Name)} (h : KeysOK N PK CK) (n : Name) :
    KeysOK (N.filter (· != n)) (PK.filter (· != n)) (CK.filter (· != some n)) where
  names := h.names.filter _
  parentKeys := h.parentKeys.filter _
  childKeys := h.childKeys.filter _
  parent k := by simp only [List.mem_filter, h.parent k]
  child k := by simp only [List.mem_filter, h.child k, bne_iff_ne, ne_eq, Option.some.injEq]

theorem Tidy.fresh {c : Chart} (ht : Tidy c) {n : Name} (h : c.hasState n = false) :
    n ∉ c.states.map (·.name) ∧ n ∉ c.parent.map (·.1) ∧ some n ∉ c.children.map (·.1) ∧
      (∀ x, c.parentFor x ≠ some n) ∧ (∀ q, n ∉ c.childrenFor q) := by
  have no : c.hasState n ≠ true := by rw [h]; exact Bool.false_ne_true
  exact ⟨fun hm => no ((hasState_iff_mem c n).mpr hm), fun hm => no (ht.parentKeysStates n hm),
    fun hm => no (ht.childKeysStates n hm), fun x e => no (ht.parent_states x n e).2,
    fun q hm => no (ht.parent_states n q ((ht.childParent q n).mp hm)).1⟩

theorem map_renameIn_of_not_mem (a b : Name) (l : List Name) (h : a ∉ l) : l.map (Chart.renameIn a b) = l := by
  rw [List.map_congr_left (g := id)]
  · simp
  · intro z hz; exact renameIn_ne (fun e => h (e ▸ hz))

theorem erase_append_perm_map (a b : Name) : ∀ (l : List Name), l.Nodup → a ∈ l →
    (l.erase a ++ [b]).Perm (l.map (Chart.renameIn a b))
  | [], _, h => by cases h
  | y :: ys, hn, hm => by
    obtain ⟨hy, hn'⟩ := List.nodup_cons.mp hn
    by_cases e : y = a
    · subst e
      simp only [List.erase_cons_head, List.map_cons, renameIn_self, map_renameIn_of_not_mem y b ys hy]
      exact List.perm_append_comm
    · have hm' : a ∈ ys := by
        rcases List.mem_cons.mp hm with e' | e'
        · exact absurd e'.symm e
        · exact e'
      have h1 : (y == a) = false := by simp [e]
      simp only [List.erase_cons, h1, Bool.false_eq_true, if_false, List.cons_append, List.map_cons, renameIn_ne e]
      exact List.Perm.cons _ (erase_append_perm_map a b ys hn' hm')

theorem rename_childrenFor (c : Chart) (a b : Name) (ht : Tidy c) (h : (c.renameState a b).1 = .ok ()) (hne : a ≠ b)
    (n : Name) :
    (c.renameState a b).2.childrenFor n =
    if n = a then [] else if n = b then c.childrenFor a
    else if c.parentFor a = some n then ((c.childrenFor n).erase a ++ [b]) else c.childrenFor n := by
  obtain ⟨hnb, _, _⟩ := renameState_states c a b h hne
  have hkeys : ((assocModify (c.parentFor a) (fun l => l.erase a ++ [b]) c.children).map
      (fun (p : Option Name × List Name) => p.1)).Nodup := by rw [keys_assocModify]; exact ht.childKeys
  rw [Chart.childrenFor, (renameState_fields c a b h hne).2, relisted_children c a b ht]
  unfold assocErase
  rw [eraseFirst_eq_filter (fun (p : Option Name × List Name) => p.1) (some a) _ hkeys,
    find?_filter_append_key (some a) (some b) (some n) _ _ (fun e => hne (Option.some.inj e).symm)
      (by rw [keys_assocModify]; exact (ht.fresh hnb).2.2.1)]
  by_cases hna : n = a
  · rw [if_pos (by rw [hna]), if_pos hna]
  rw [if_neg (fun e => hna (Option.some.inj e)), if_neg hna]
  by_cases hnb' : n = b
  · -- the entry of `b` is the one that `a` had
    rw [if_pos (by rw [hnb']), if_pos hnb']
    show (c.relisted a b).childrenFor a = c.childrenFor a
    unfold Chart.childrenFor
    rw [relisted_children c a b ht, find?_assocModify_ne _ _ _ (ht.noSelf a)]
  rw [if_neg (fun e => hnb' (Option.some.inj e)), if_neg hnb']
  by_cases hp : c.parentFor a = some n
  · -- `a` is a child of `n`, so `n` has an entry
    rw [if_pos hp, hp, find?_assocModify_same]
    have hm : a ∈ c.childrenFor n := (ht.childParent n a).mpr hp
    unfold Chart.childrenFor at hm ⊢
    cases hf : c.children.find? (fun p => p.1 == some n) with
    | none => rw [hf] at hm; cases hm
    | some e => rfl
  · rw [if_neg hp, find?_assocModify_ne _ _ _ hp]
    rfl

theorem rename_children_perm (c : Chart) (a b : Name) (ht : Tidy c) (h : (c.renameState a b).1 = .ok ()) (hne : a ≠ b)
    (n : Name) :
    ((c.renameState a b).2.childrenFor n).Perm ((c.mapNames (renameIn a b)).childrenFor n) := by
  obtain ⟨hnb, hha, _⟩ := renameState_states c a b h hne
  have hb_nokey := (ht.fresh hnb).2.2.1
  have ha_self : a ∉ c.childrenFor a := fun hm => ht.noSelf a ((ht.childParent a a).mp hm)
  have lhs := rename_childrenFor c a b ht h hne n
  -- the children of `n` in the substituted chart
  have rhs : (c.mapNames (renameIn a b)).childrenFor n =
      if n = a then [] else if n = b then (c.childrenFor a).map (renameIn a b)
      else (c.childrenFor n).map (renameIn a b) := by
    unfold Chart.childrenFor Chart.mapNames
    simp only
    by_cases hna : n = a
    · subst hna
      rw [find?_mapped (Option.map (renameIn n b)) (List.map (renameIn n b)) none (some n) c.children (by
        intro q _ hq
        cases q with
        | none => rfl
        | some x => exact absurd (Option.some.inj hq) (renameIn_ne_old hne x))]
      simp
    · simp only [hna, if_false]
      by_cases hnb' : n = b
      · subst hnb'
        rw [find?_mapped (Option.map (renameIn a n)) (List.map (renameIn a n)) (some a) (some n) c.children (by
          intro q hq hq'
          cases q with
          | none => cases hq'
          | some x =>
            rw [renameIn_inj (fun e => hb_nokey (by rw [← e]; exact hq)) hne
              ((Option.some.inj hq').trans (renameIn_self a n).symm)])]
        simp only [Option.map_some, renameIn_self, if_true]
        cases c.children.find? (fun p => p.1 == some a) with
        | none => rfl
        | some e => rfl
      · simp only [hnb', if_false]
        rw [find?_mapped (Option.map (renameIn a b)) (List.map (renameIn a b)) (some n) (some n) c.children (by
          intro q hq hq'
          cases q with
          | none => cases hq'
          | some x =>
            rw [renameIn_inj (fun e => hb_nokey (by rw [← e]; exact hq)) hnb'
              ((Option.some.inj hq').trans (renameIn_ne hna).symm)])]
        simp only [Option.map_some, renameIn_ne hna, if_true]
        cases c.children.find? (fun p => p.1 == some n) with
        | none => rfl
        | some e => rfl
  rw [lhs, rhs]
  by_cases hna : n = a
  · simp [hna]
  · simp only [hna, if_false]
    by_cases hnb' : n = b
    · simp only [hnb', if_true]
      rw [map_renameIn_of_not_mem a b _ ha_self]
    · simp only [hnb', if_false]
      by_cases hp : c.parentFor a = some n
      · simp only [hp, if_true]
        exact erase_append_perm_map a b _ (ht.childrenNodup n) ((ht.childParent n a).mpr hp)
      · simp only [hp, if_false]
        rw [map_renameIn_of_not_mem a b _ (fun hm => hp ((ht.childParent n a).mp hm))]

theorem nodup_map_renameIn (a b : Name) (l : List Name) (hn : l.Nodup) (hb : b ∉ l) :
    (l.map (renameIn a b)).Nodup := by
  induction l with
  | nil => exact List.nodup_nil
  | cons y ys ih =>
    obtain ⟨hy, hn'⟩ := List.nodup_cons.mp hn
    have hb' : b ∉ ys := fun h => hb (List.mem_cons_of_mem _ h)
    refine List.nodup_cons.mpr ⟨fun hm => ?_, ih hn' hb'⟩
    obtain ⟨z, hz, e⟩ := List.mem_map.mp hm
    have : z = y := renameIn_inj (fun e' => hb' (by rw [← e']; exact hz))
      (fun e' => hb (by rw [← e']; exact List.mem_cons_self)) e
    exact hy (this ▸ hz)

theorem rename_is_substitution (c : Chart) (a b : Name) (ht : Tidy c) (h : (c.renameState a b).1 = .ok ()) (hne : a ≠ b) :
    ChartPerm (c.mapNames (renameIn a b)) (c.renameState a b).2 := by
  obtain ⟨hnb, hha, _⟩ := renameState_states c a b h hne
  obtain ⟨hbn, hbp, _⟩ := ht.fresh hnb
  refine ⟨rename_states_perm c a b ht.names h hne, ?_, rename_parent_perm c a b ht h hne, ?_, ?_,
    rename_children_perm c a b ht h hne, ?_⟩
  · show ((c.states.map (StateDef.rename (renameIn a b))).map (·.name)).Nodup
    rw [List.map_map]
    have : ((fun (s : StateDef) => s.name) ∘ StateDef.rename (renameIn a b)) = (renameIn a b) ∘ (fun (s : StateDef) => s.name) := rfl
    rw [this, ← List.map_map]
    exact nodup_map_renameIn a b _ ht.names hbn
  · show ((c.parent.map (fun p => (renameIn a b p.1, p.2.map (renameIn a b)))).map (·.1)).Nodup
    rw [List.map_map]
    have : ((fun (p : Name × Option Name) => p.1) ∘ (fun p => (renameIn a b p.1, p.2.map (renameIn a b)))) =
        (renameIn a b) ∘ (fun (p : Name × Option Name) => p.1) := rfl
    rw [this, ← List.map_map]
    exact nodup_map_renameIn a b _ ht.parentKeys hbp
  · intro e he e' he' h1 h2
    obtain ⟨x, hx, rfl⟩ := List.mem_map.mp he
    obtain ⟨x', hx', rfl⟩ := List.mem_map.mp he'
    have n1 : x.2 = none := by cases hx2 : x.2 with | none => rfl | some v => simp [hx2] at h1
    have n2 : x'.2 = none := by cases hx2 : x'.2 with | none => rfl | some v => simp [hx2] at h2
    rw [ht.oneRoot x hx x' hx' n1 n2]
  · rw [renameState_transitions c a b h hne]
    exact List.Perm.refl _

/-- what `Tidy` asks beyond well-formedness: the dictionaries have no duplicate keys and only
    states as keys (decidable) -/
def tidyExtraB (c : Chart) : Bool :=
  decide (c.parent.map (·.1)).Nodup && decide (c.children.map (·.1)).Nodup &&
  c.parent.all (fun p => c.hasState p.1) &&
  c.children.all (fun p => match p.1 with | some k => c.hasState k | none => true) &&
  c.states.all (fun s => (c.children.map (·.1)).contains (some s.name))

theorem tidy_of_wf (c : Chart) (hw : WFChart c) (hx : tidyExtraB c = true) : Tidy c := by
  unfold tidyExtraB at hx
  simp only [Bool.and_eq_true, decide_eq_true_eq, List.all_eq_true] at hx
  obtain ⟨⟨⟨⟨hpk, hck⟩, hps⟩, hcs⟩, hce⟩ := hx
  have pks : ∀ k, k ∈ c.parent.map (·.1) → c.hasState k = true := by
    intro k hk
    obtain ⟨p, hp, rfl⟩ := List.mem_map.mp hk
    exact hps p hp
  -- the entry of a key is what `parentFor` finds
  have entry : ∀ e ∈ c.parent, c.parent.find? (fun p => p.1 == e.1) = some e := fun e he =>
    find?_of_mem_key (fun (p : Name × Option Name) => p.1) hpk he
  obtain ⟨r, hroot, hrp, hrs⟩ := hw.root
  refine ⟨hw.names, hpk, hck, pks, ?_, ?_, ?_, ?_, hw.children, hw.childrenNodup, ?_⟩
  · -- every state has an entry
    intro k hk
    by_cases hkr : c.root = some k
    · unfold Chart.root at hkr
      cases hf : c.parent.find? (fun p => p.2 == none) with
      | none => rw [hf] at hkr; cases hkr
      | some e =>
        rw [hf] at hkr
        simp only [Option.map_some, Option.some.injEq] at hkr
        exact List.mem_map.mpr ⟨e, List.mem_of_find?_eq_some hf, hkr⟩
    · obtain ⟨p, hp⟩ := hw.nonroot k hk hkr
      exact List.mem_map.mpr ⟨(k, some p), parentFor_mem c k p hp, rfl⟩
  · intro k hk
    obtain ⟨p, hp, e⟩ := List.mem_map.mp hk
    have := hcs p hp
    rw [e] at this
    exact this
  · intro k hk
    obtain ⟨sd, hsd⟩ := (hasState_iff_stateFor c k).mp hk
    have := hce sd (List.mem_of_find?_eq_some hsd)
    have hn : sd.name = k := (stateFor_mem c k sd hsd).2
    rw [hn] at this
    simpa using this
  · -- one root
    have isRoot : ∀ e ∈ c.parent, e.2 = none → e.1 = r := by
      intro e he hn
      have hpf : c.parentFor e.1 = none := by
        unfold Chart.parentFor; rw [entry e he]; exact hn
      by_cases hkr : c.root = some e.1
      · rw [hroot] at hkr; exact (Option.some.inj hkr).symm
      · obtain ⟨p, hp⟩ := hw.nonroot e.1 (pks e.1 (List.mem_map.mpr ⟨e, he, rfl⟩)) hkr
        rw [hpf] at hp; cases hp
    intro e he e' he' h1 h2
    exact Prod.ext ((isRoot e he h1).trans (isRoot e' he' h2).symm) (h1.trans h2.symm)
  · intro n hn
    obtain ⟨rk, hrk, _⟩ := hw.tree.rank
    exact Nat.lt_irrefl _ (hrk n n hn)

end Sismic
