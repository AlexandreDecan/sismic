import Sismic.Spec.C01
import Sismic.Proofs.Select
/-!
# Sismic.Proofs.C01 — `_select_transitions` computes exactly `Fires`
-/
namespace Sismic

variable (c : Chart) (cfg : List Name) (evName : Option String) (ok : Trans → Bool → Bool)

/-- the transitions `_select_transitions` considers -/
def considered : List Trans :=
  c.transitions.filter (fun t => cfg.contains t.source && (t.event.isNone || t.event == evName))

theorem mem_g0 (t : Trans) :
    (t ∈ (considered c cfg evName).filter (fun t => t.event.isNone) ∧ ok t false = true) ↔
      (Enabled c cfg evName ok t ∧ t.event = none) := by
  unfold considered Enabled
  simp only [List.mem_filter, Bool.and_eq_true, Bool.or_eq_true, List.contains_iff_mem,
    Option.isNone_iff_eq_none, beq_iff_eq]
  constructor
  · rintro ⟨⟨⟨ht, hs, _⟩, hn⟩, hok⟩
    exact ⟨⟨ht, hs, Or.inl ⟨hn, hok⟩⟩, hn⟩
  · rintro ⟨⟨ht, hs, h⟩, hn⟩
    rcases h with ⟨_, hok⟩ | ⟨hne, _, _⟩
    · exact ⟨⟨⟨ht, hs, Or.inl hn⟩, hn⟩, hok⟩
    · exact absurd hn hne

theorem mem_g1 (t : Trans) :
    (t ∈ (considered c cfg evName).filter (fun t => t.event.isSome) ∧ ok t true = true) ↔
      (Enabled c cfg evName ok t ∧ t.event ≠ none) := by
  unfold considered Enabled
  simp only [List.mem_filter, Bool.and_eq_true, Bool.or_eq_true, List.contains_iff_mem,
    Option.isNone_iff_eq_none, beq_iff_eq, Option.isSome_iff_ne_none]
  constructor
  · rintro ⟨⟨⟨ht, hs, he⟩, hn⟩, hok⟩
    rcases he with he | he
    · exact absurd he hn
    · exact ⟨⟨ht, hs, Or.inr ⟨hn, he, hok⟩⟩, hn⟩
  · rintro ⟨⟨ht, hs, h⟩, hn⟩
    rcases h with ⟨he, _⟩ | ⟨_, he, hok⟩
    · exact absurd he hn
    · exact ⟨⟨⟨ht, hs, Or.inr he⟩, hn⟩, hok⟩

theorem groupSpec_iff_fires (hT : TreeOK c) (ok' : Trans → Bool) (G : List Trans)
    (hG : ∀ u, (u ∈ G ∧ ok' u = true) ↔ Competes c cfg evName ok u) (t : Trans) :
    GroupSpec c ok' G t ↔ Fires c cfg evName ok t := by
  simp only [GroupSpec, Fires, ← hG, mem_ancestors c hT]
  constructor
  · rintro ⟨h1, h2, h3, h4⟩
    exact ⟨⟨h1, h2⟩, fun u hu => h3 u hu.1 hu.2, fun u hu hs => h4 u hu.1 hs hu.2⟩
  · rintro ⟨⟨h1, h2⟩, h3, h4⟩
    exact ⟨h1, h2, fun u hu hok => h3 u ⟨hu, hok⟩, fun u hu hs hok => h4 u ⟨hu, hok⟩ hs⟩

/-- **C01** — the selected transitions are exactly those the documented semantics fires. -/
theorem select_iff_fires (hT : TreeOK c) (t : Trans) :
    t ∈ (selectTransitions c cfg evName ok).selected ↔ Fires c cfg evName ok t := by
  have g0 := mem_g0 c cfg evName ok
  have g1 := mem_g1 c cfg evName ok
  have hne : (selectGroup c (fun t => ok t false)
        ((considered c cfg evName).filter (fun t => t.event.isNone))).selected ≠ [] ↔
      ∃ u, Enabled c cfg evName ok u ∧ u.event = none := by
    rw [selectGroup_selected_ne_nil c hT]
    exact ⟨fun ⟨u, hu, hok⟩ => ⟨u, (g0 u).mp ⟨hu, hok⟩⟩, fun ⟨u, hu⟩ => ⟨u, (g0 u).mpr hu⟩⟩
  unfold selectTransitions
  simp only
  split
  · next hsel =>
    -- some eventless transition is enabled: only eventless ones compete
    have hsome := hne.mp (List.isEmpty_eq_false_iff.mp ((Bool.not_eq_true' _).mp hsel))
    rw [selectGroup_iff c hT]
    refine groupSpec_iff_fires c cfg evName ok hT _ _ (fun u => (g0 u).trans ?_) t
    exact ⟨fun h => ⟨h.1, Or.inl h.2⟩, fun h => ⟨h.1, h.2.resolve_right (fun hn => hn hsome)⟩⟩
  · next hsel =>
    -- nothing eventless is enabled: the event-triggered group decides
    have hnone : ¬ ∃ u, Enabled c cfg evName ok u ∧ u.event = none := fun h =>
      hsel ((Bool.not_eq_true' _).mpr (List.isEmpty_eq_false_iff.mpr (hne.mpr h)))
    rw [selectGroup_iff c hT]
    refine groupSpec_iff_fires c cfg evName ok hT _ _ (fun u => (g1 u).trans ?_) t
    exact ⟨fun h => ⟨h.1, Or.inr hnone⟩, fun h => ⟨h.1, fun e => hnone ⟨u, h.1, e⟩⟩⟩

end Sismic

namespace Sismic

/-- every guard that is evaluated belongs to a considered transition, and it is shown the event
    iff the transition is event-triggered -/
theorem calls_exposure (c : Chart) (cfg : List Name) (evName : Option String)
    (ok : Trans → Bool → Bool) (t : Trans) (exposed : Bool)
    (h : (t, exposed) ∈ (selectTransitions c cfg evName ok).calls) :
    t ∈ c.transitions ∧ t.source ∈ cfg ∧ t.guard.isSome = true ∧
      (exposed = false → t.event = none) ∧ (exposed = true → t.event ≠ none ∧ t.event = evName) := by
  have key : ∀ (okk : Trans → Bool) (G : List Trans) (b : Bool),
      (t, exposed) ∈ guardCalls (selectGroup c okk G) b → t ∈ G ∧ t.guard.isSome = true ∧ exposed = b := by
    intro okk G b hm
    unfold guardCalls at hm
    simp only [List.mem_map, List.mem_filter, Prod.mk.injEq] at hm
    obtain ⟨u, ⟨hu, hg⟩, rfl, rfl⟩ := hm
    exact ⟨(selectGroup_within c okk G).2 u hu, hg, rfl⟩
  have hcons : ∀ u, u ∈ c.transitions.filter (fun t => cfg.contains t.source &&
      (t.event.isNone || t.event == evName)) →
      u ∈ c.transitions ∧ u.source ∈ cfg ∧ (u.event = none ∨ u.event = evName) := by
    intro u hu
    simp only [List.mem_filter, Bool.and_eq_true, Bool.or_eq_true, List.contains_iff_mem,
      Option.isNone_iff_eq_none, beq_iff_eq] at hu
    exact ⟨hu.1, hu.2.1, hu.2.2⟩
  -- every call is one of the eventless group (no event shown) or of the event group (event shown)
  have h' : (t, exposed) ∈ guardCalls (selectGroup c (fun t => ok t false)
        ((considered c cfg evName).filter (fun t => t.event.isNone))) false ∨
      (t, exposed) ∈ guardCalls (selectGroup c (fun t => ok t true)
        ((considered c cfg evName).filter (fun t => t.event.isSome))) true := by
    unfold selectTransitions at h
    simp only at h
    split at h
    · exact Or.inl h
    · exact List.mem_append.mp h
  rcases h' with h | h
  · obtain ⟨hG, hg, he⟩ := key _ _ _ h
    have h1 := List.mem_filter.mp hG
    have h2 := hcons t h1.1
    have hn : t.event = none := by simpa using h1.2
    subst he
    exact ⟨h2.1, h2.2.1, hg, fun _ => hn, fun e => by simp at e⟩
  · obtain ⟨hG, hg, he⟩ := key _ _ _ h
    have h1 := List.mem_filter.mp hG
    have h2 := hcons t h1.1
    have hn : t.event ≠ none := by simpa [Option.isSome_iff_ne_none] using h1.2
    subst he
    exact ⟨h2.1, h2.2.1, hg, fun e => by simp at e, fun _ => ⟨hn, h2.2.2.resolve_left hn⟩⟩

end Sismic
