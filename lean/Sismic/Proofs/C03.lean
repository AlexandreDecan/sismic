import Sismic.Proofs.LogFilters
/-!
# Sismic.Proofs.C03 — where a `StabChain` / `RunChain` ends: nothing is left to stabilise
-/
namespace Sismic
open M

variable {σ ω : Type} (env : Env σ ω)

theorem stabChain_end (c : Chart) : ∀ (l : List Micro) (cm : List Name × List (Name × List Name)),
    StabChain c cm l → stabilizationStep c (applyMicros c cm l).2 (applyMicros c cm l).1 = none
  | [], cm, h => h
  | m :: ms, cm, h => by
    obtain ⟨s, _, hshape, hrest⟩ := h
    rw [applyMicros_cons_shape c cm hshape]
    exact stabChain_end c ms _ hrest

theorem applyMicros_append (c : Chart) (cm : List Name × List (Name × List Name)) (a b : List Micro) :
    applyMicros c cm (a ++ b) = applyMicros c (applyMicros c cm a) b := by
  simp [applyMicros, List.foldl_append]

/-- after a macro step that processed at least one planned step, nothing is left to stabilise -/
theorem runChain_stable (c : Chart) : ∀ (p : Micro) (ps ex : List Micro) (cm : List Name × List (Name × List Name)),
    RunChain c cm (p :: ps) ex →
    stabilizationStep c (applyMicros c cm ex).2 (applyMicros c cm ex).1 = none
  | p, ps, ex, cm, h => by
    obtain ⟨a, stab, rest, rfl, hshape, hstab, hrest⟩ := h
    rw [List.cons_append, applyMicros_cons_shape c cm hshape, applyMicros_append]
    cases ps with
    | nil =>
      have : rest = [] := hrest
      subst this
      simp only [applyMicros, List.foldl_nil]
      exact stabChain_end c stab _ hstab
    | cons q qs =>
      exact runChain_stable c q qs rest _ hrest

end Sismic
