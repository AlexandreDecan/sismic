import Sismic.Proofs.ErrSpec
import Sismic.Model.Py
/-!
# Sismic.Proofs.OldStore — `__old__` is the snapshot taken when the state was entered / the transition started

For the modelled `PythonEvaluator`: the store behind `__old__` (`PyCtx.old`, one entry per state /
transition) is written by `evaluate_preconditions` only.  Hence
* `enterState` / `fireTransition` leave, in the entry of their own object, the variables as they
  were when they were called (`entry_snapshot`, `start_snapshot`);
* nothing else the interpreter does during `execute_once` changes the entry of an object: it is
  the same afterwards unless the log says that the object was entered / processed meanwhile
  (`OldRel`, `old_executeOnce`).
-/
namespace Sismic
open M

variable {ω : Type}

/-- what the log shows when the object `k` is entered (a state) / processed (a transition):
    the evaluation of one of its preconditions, its entry code / action — for a transition the
    evaluation of any of its conditions -/
def marks (k : ObjId) : Effect → Bool
  | .onEntry n => k == .state n
  | .action id _ => k == .trans id
  | .cond kind o _ _ _ => o == k && (kind == .pre || (match k with | .trans _ => true | .state _ => false))
  | _ => false

/-- the log grew, and the `__old__` entry of `k` is what it was unless the log says that `k` was
    entered / processed meanwhile -/
def OldRel (k : ObjId) (rs rs' : RS PyCtx ω) : Prop :=
  ∃ l, rs'.eff = rs.eff ++ l ∧
    (l.any (marks k) = false → assocGet k rs'.st.ctx.old = assocGet k rs.st.ctx.old)

theorem OldRel_pre (k : ObjId) : PreOrd (OldRel k : RS PyCtx ω → RS PyCtx ω → Prop) where
  refl a := ⟨[], by simp, fun _ => rfl⟩
  trans a b c h1 h2 := by
    obtain ⟨l1, e1, o1⟩ := h1
    obtain ⟨l2, e2, o2⟩ := h2
    refine ⟨l1 ++ l2, by rw [e2, e1, List.append_assoc], fun h => ?_⟩
    rw [List.any_append, Bool.or_eq_false_iff] at h
    rw [o2 h.2, o1 h.1]

/-- the log grew by entries that mark `k` -/
def Marked (k : ObjId) (rs rs' : RS PyCtx ω) : Prop :=
  ∃ l, rs'.eff = rs.eff ++ l ∧ l.any (marks k) = true

theorem Marked.toOldRel {k : ObjId} {rs rs' : RS PyCtx ω} (h : Marked k rs rs') : OldRel k rs rs' := by
  obtain ⟨l, e, m⟩ := h
  exact ⟨l, e, fun h' => by rw [m] at h'; cases h'⟩

theorem Marked.then {k : ObjId} {a b c : RS PyCtx ω} (h : Marked k a b) (h2 : OldRel k b c) : Marked k a c := by
  obtain ⟨l, e, m⟩ := h
  obtain ⟨l2, e2, _⟩ := h2
  exact ⟨l ++ l2, by rw [e2, e, List.append_assoc], by rw [List.any_append, m]; rfl⟩

/-- only the log matters before entries that mark `k` -/
theorem Marked.after_ext {k : ObjId} {a b c : RS PyCtx ω} {l : List Effect} (e : b.eff = a.eff ++ l)
    (h2 : Marked k b c) : Marked k a c := by
  obtain ⟨l2, e2, m⟩ := h2
  exact ⟨l ++ l2, by rw [e2, e, List.append_assoc], by rw [List.any_append, m]; simp⟩

theorem OldRel.thenMarked {k : ObjId} {a b c : RS PyCtx ω} (h : OldRel k a b) (h2 : Marked k b c) : Marked k a c := by
  obtain ⟨l, e, _⟩ := h
  exact h2.after_ext e

theorem old_modify (k : ObjId) (f : IState PyCtx → IState PyCtx) (h : ∀ st, (f st).ctx.old = st.ctx.old) :
    Rel (OldRel k) (M.modify f : M PyCtx ω Unit) := by
  intro rs
  exact ⟨[], by simp [M.modify], fun _ => by simp [M.modify, h]⟩

theorem old_emit (k : ObjId) (e : Effect) : Rel (OldRel k) (M.emit e : M PyCtx ω Unit) := by
  intro rs
  exact ⟨[e], rfl, fun _ => rfl⟩

variable (env : Env PyCtx ω)

theorem raiseMeta_ctx (m : Event) (rs : RS PyCtx ω) : (raiseMeta env m rs).2.st.ctx = rs.st.ctx := by
  obtain ⟨q, h⟩ := extq_raiseMeta env m rs
  rw [h]

theorem old_raiseMeta (k : ObjId) (m : Event) : Rel (OldRel k) (raiseMeta env m) :=
  fun rs => ⟨_, raiseMeta_eff env m rs, fun _ => by rw [raiseMeta_ctx]⟩

/-- evaluating conditions of another object, or conditions that are not preconditions, leaves the
    entry of `k` alone -/
theorem old_evalContract (hE : env.E = pyEvaluator) (k : ObjId) (kind : CondKind) (obj : Obj) (ev : Option Event)
    (h : kind ≠ .pre ∨ obj.id ≠ k) : Rel (OldRel k) (evalContract env kind obj ev) :=
  (Logic.ofPre (OldRel_pre k)).evalContract env (Rel.throw (OldRel_pre k)) (fun _ _ _ _ _ => old_emit k _) kind obj ev
    fun hk rs => by
      refine ⟨[], by simp [M.modify], fun _ => ?_⟩
      simp only [M.modify, hE, pyEvaluator, pyFreeze]
      exact assocGet_assocSet_other obj.id k _ _ (Ne.symm (h.resolve_left fun h' => h' hk))

theorem pyExec_old (st : IState PyCtx) (x : ExecKind) (ev : Option Event) :
    (pyExec st x ev).1.old = st.ctx.old := by
  unfold pyExec
  cases x <;> dsimp only <;> split <;> first | rfl | (split <;> rfl)

theorem runCode_state (x : ExecKind) (ev : Option Event) (rs : RS PyCtx ω) :
    (runCode env x ev rs).2 = { rs with st := { rs.st with ctx := (env.E.exec rs.st x ev).1 } } := by
  unfold runCode
  simp only [M.bind, M.get, M.modify]
  cases (env.E.exec rs.st x ev).2 <;> rfl

theorem runCode_old (hE : env.E = pyEvaluator) (x : ExecKind) (ev : Option Event) (rs : RS PyCtx ω) :
    (runCode env x ev rs).2.st.ctx.old = rs.st.ctx.old := by
  rw [runCode_state, hE]
  exact pyExec_old _ _ _

theorem old_runCode (hE : env.E = pyEvaluator) (k : ObjId) (x : ExecKind) (ev : Option Event) :
    Rel (OldRel k) (runCode env x ev) :=
  fun rs => ⟨[], by rw [runCode_state]; simp, fun _ => by rw [runCode_old env hE]⟩

/-! ### entering a state, processing a transition: the object's own entry -/

theorem ext_evalContract (kind : CondKind) (obj : Obj) (ev : Option Event) (rs : RS PyCtx ω) :
    ∃ l, (evalContract env kind obj ev rs).2.eff = rs.eff ++ l :=
  ((RT_respects env).contract kind obj ev rs).2.2

/-- what follows the evaluation of conditions whose evaluations mark their object: when the
    evaluation raises, the log shows the one that did -/
theorem marked_after_contract (kind : CondKind) (obj : Obj) (ev : Option Event)
    (hm : ∀ j r, marks obj.id (.cond kind obj.id j ev r) = true) {α : Type} {f : Unit → M PyCtx ω α}
    (hf : ∀ a, Rel (Marked obj.id) (f a)) : Rel (Marked obj.id) (M.bind (evalContract env kind obj ev) f) := by
  intro rs
  have hext := ext_evalContract env kind obj ev rs
  unfold M.bind
  split
  · next a rs1 heq =>
    rw [heq] at hext
    obtain ⟨l, hl⟩ := hext
    exact (hf a rs1).after_ext hl
  · next e rs1 heq =>
    obtain ⟨l, j, r, hl, _⟩ := evalContract_error env kind obj ev rs rs1 e heq
    exact ⟨l ++ [.cond kind obj.id j ev r], by rw [hl, List.append_assoc], by simp [hm]⟩

theorem marks_cond_pre (obj : Obj) (ev : Option Event) (j : Nat) (r : Option Bool) :
    marks obj.id (.cond .pre obj.id j ev r) = true := by
  simp [marks]

theorem marks_cond_trans (t : Trans) (kind : CondKind) (ev : Option Event) (j : Nat) (r : Option Bool) :
    marks (.trans t.id) (.cond kind (.trans t.id) j ev r) = true := by
  simp [marks]

/-- once the log shows that `k` is entered / processed, whatever follows keeps saying so -/
theorem marked_then {k : ObjId} {α β : Type} {x : M PyCtx ω α} {f : α → M PyCtx ω β}
    (hx : Rel (Marked k) x) (hf : ∀ a, Rel (OldRel k) (f a)) : Rel (Marked k) (M.bind x f) :=
  Rel.seq (R := Marked k) (S := OldRel k) (fun _ _ _ => Marked.then) (fun _ _ h => h) hx hf

theorem old_enterState (hE : env.E = pyEvaluator) (k : ObjId) (step : Micro) (s : StateDef) :
    Rel (OldRel k) (enterState env step s) := by
  unfold enterState
  by_cases hk : k = .state s.name
  case' pos =>  -- its own entry: the log shows it
    subst hk
    refine fun rs => Marked.toOldRel (marked_after_contract env .pre (.state s) _ (marks_cond_pre _ _) (fun _ =>
      marked_then (fun rs => ⟨[.onEntry s.name], rfl, by simp [marks, Obj.id]⟩) fun _ => ?_) rs)
  case' neg =>
    refine Rel.bind (OldRel_pre k) (old_evalContract env hE k .pre (.state s) _ (Or.inr fun h => hk h.symm)) fun _ =>
      Rel.bind (OldRel_pre k) (old_emit k _) fun _ => ?_
  all_goals
    exact Rel.bind (OldRel_pre _) (old_runCode env hE _ _ _) fun _ =>
      Rel.bind (OldRel_pre _) (old_modify _ _ fun _ => rfl) fun _ =>
      Rel.bind (OldRel_pre _) (old_raiseMeta env _ _) fun _ => Rel.pure (OldRel_pre _) _

theorem old_fireTransition (hE : env.E = pyEvaluator) (k : ObjId) (step : Micro) (t : Trans) :
    Rel (OldRel k) (fireTransition env step t) := by
  unfold fireTransition
  by_cases hk : k = .trans t.id
  case' pos =>
    subst hk
    refine fun rs => Marked.toOldRel (marked_after_contract env .pre (.trans t) _ (marks_cond_trans t _ _) (fun _ =>
      marked_after_contract env .inv (.trans t) _ (marks_cond_trans t _ _) fun _ =>
      marked_then (fun rs => ⟨[.action t.id step.event], rfl, by simp [marks, Obj.id]⟩) fun _ => ?_) rs)
  case' neg =>
    have hne : (Obj.trans t).id ≠ k := fun h => hk h.symm
    refine Rel.bind (OldRel_pre k) (old_evalContract env hE k .pre (.trans t) _ (Or.inr hne)) fun _ =>
      Rel.bind (OldRel_pre k) (old_evalContract env hE k .inv (.trans t) _ (Or.inr hne)) fun _ =>
      Rel.bind (OldRel_pre k) (old_emit k _) fun _ => ?_
  all_goals
    exact Rel.bind (OldRel_pre _) (old_runCode env hE _ _ _) fun _ =>
      Rel.bind (OldRel_pre _) (old_evalContract env hE _ .post (.trans t) _ (Or.inl (by decide))) fun _ =>
      Rel.bind (OldRel_pre _) (old_evalContract env hE _ .inv (.trans t) _ (Or.inl (by decide))) fun _ =>
      Rel.bind (OldRel_pre _) (old_modify _ _ fun _ => rfl) fun _ =>
      Rel.bind (OldRel_pre _) (old_raiseMeta env _ _) fun _ => Rel.pure (OldRel_pre _) _

/-- the entry of `k` is among what a macro step leaves alone, but for `enterState` and
    `fireTransition` of `k` itself, which the log shows -/
theorem old_walk (hE : env.E = pyEvaluator) (k : ObjId) : Walk env (fun _ m => Rel (OldRel k : RS PyCtx ω → _ → Prop) m) where
  toLogic := Logic.ofPre (OldRel_pre k)
  modify f _ hctx := old_modify k f fun st => by rw [hctx]
  emit e _ := old_emit k e
  raise := old_raiseMeta env k
  contract kind obj ev hk := old_evalContract env hE k kind obj ev (Or.inl hk)
  send := (Logic.ofPre (OldRel_pre k)).sendOne env (old_raiseMeta env k)
    (fun _ => by unfold queueEvent; exact old_modify k _ fun _ => rfl) fun _ => old_modify k _ fun _ => rfl
  runCode := old_runCode env hE k
  enter := old_enterState env hE k
  fire := old_fireTransition env hE k

/-- **Nothing but entering a state / processing a transition changes its `__old__` entry**, whatever
    the outcome of `execute_once`. -/
theorem old_executeOnce (hE : env.E = pyEvaluator) (k : ObjId) (clock : Int) :
    Rel (OldRel k) (executeOnce env clock) :=
  walk_executeOnce (old_walk env hE k) (Rel.throw (OldRel_pre k) _) (Rel.throw (OldRel_pre k) _)
    ((Logic.ofPre (OldRel_pre k)).consumeOne env (old_raiseMeta env k) (old_modify k _ fun st => by rw [popEvent_queues]))
    clock (old_modify k _ fun _ => rfl)

/-! ### what the entry holds: the variables at the entry / the start -/

theorem sameSt_pre : PreOrd (fun rs rs' : RS PyCtx ω => rs'.st = rs.st) := PreOrd.ofEq (·.st)

theorem evalConds_st (kind : CondKind) (obj : Obj) (ev : Option Event) (codes : List Code) (i : Nat) (rs : RS PyCtx ω) :
    (evalConds env kind obj ev i codes rs).2.st = rs.st :=
  (Logic.ofPre sameSt_pre).evalConds env (Rel.throw sameSt_pre) (fun _ _ _ _ _ _ => rfl) kind obj ev codes i rs

theorem evalContract_st (kind : CondKind) (hk : kind ≠ .pre) (obj : Obj) (ev : Option Event) (rs : RS PyCtx ω) :
    (evalContract env kind obj ev rs).2.st = rs.st :=
  (Logic.ofPre sameSt_pre).evalContract env (Rel.throw sameSt_pre) (fun _ _ _ _ _ _ => rfl) kind obj ev
    (fun h => absurd h hk) rs

/-- … and the preconditions of an object that has postconditions or invariants are evaluated after
    its `__old__` entry was set to the variables as they are -/
theorem evalContract_pre_st (hE : env.E = pyEvaluator) (hc : env.ignoreContract = false) (obj : Obj)
    (hobj : (!(obj.conds .inv).isEmpty || !(obj.conds .post).isEmpty) = true) (ev : Option Event) (rs : RS PyCtx ω) :
    (evalContract env .pre obj ev rs).2.st = { rs.st with ctx := pyFreeze rs.st.ctx obj } := by
  unfold evalContract
  simp only [hc, Bool.false_eq_true, if_false, hobj, beq_self_eq_true, Bool.and_self, if_true, M.bind, M.modify]
  rw [evalConds_st]
  simp only [hE, pyEvaluator]

theorem pyFreeze_old (ctx : PyCtx) (obj : Obj) : assocGet obj.id (pyFreeze ctx obj).old = some ctx.vars := by
  simp only [pyFreeze]
  exact assocGet_assocSet_same _ _ _

theorem pyFreeze_vars (ctx : PyCtx) (obj : Obj) : (pyFreeze ctx obj).vars = ctx.vars := rfl

def SameOld (rs rs' : RS PyCtx ω) : Prop := rs'.st.ctx.old = rs.st.ctx.old

theorem SameOld_pre : PreOrd (SameOld : RS PyCtx ω → RS PyCtx ω → Prop) :=
  PreOrd.ofEq fun rs : RS PyCtx ω => rs.st.ctx.old

theorem sameOld_evalContract (kind : CondKind) (hk : kind ≠ .pre) (obj : Obj) (ev : Option Event) :
    Rel SameOld (evalContract env kind obj ev) :=
  fun rs => congrArg (fun st : IState PyCtx => st.ctx.old) (evalContract_st env kind hk obj ev rs)

theorem sameOld_raiseMeta (m : Event) : Rel SameOld (raiseMeta env m) :=
  fun rs => congrArg PyCtx.old (raiseMeta_ctx env m rs)

theorem start_snapshot (hE : env.E = pyEvaluator) (hc : env.ignoreContract = false) (step : Micro) (t : Trans)
    (ht : (!t.inv.isEmpty || !t.post.isEmpty) = true) (rs rs' : RS PyCtx ω) (sent : List Sent)
    (h : fireTransition env step t rs = (.ok sent, rs')) :
    assocGet (.trans t.id) rs'.st.ctx.old = some rs.st.ctx.vars := by
  unfold fireTransition at h
  obtain ⟨_, r1, h1, h⟩ := bind_ok.1 h
  have e1 := evalContract_pre_st env hE hc (.trans t) ht step.event rs
  rw [h1] at e1
  -- nothing after the preconditions writes the store
  have key : SameOld r1 rs' := Rel.of_eq h <|
    Rel.bind SameOld_pre (sameOld_evalContract env _ (by decide) _ _) fun _ =>
    Rel.bind SameOld_pre (fun _ => rfl) fun _ => Rel.bind SameOld_pre (runCode_old env hE _ _) fun _ =>
    Rel.bind SameOld_pre (sameOld_evalContract env _ (by decide) _ _) fun _ =>
    Rel.bind SameOld_pre (sameOld_evalContract env _ (by decide) _ _) fun _ =>
    Rel.bind SameOld_pre (fun _ => rfl) fun _ => Rel.bind SameOld_pre (sameOld_raiseMeta env _) fun _ =>
    Rel.pure SameOld_pre _
  rw [show rs'.st.ctx.old = r1.st.ctx.old from key, e1]
  exact pyFreeze_old rs.st.ctx (.trans t)

theorem entry_snapshot (hE : env.E = pyEvaluator) (hc : env.ignoreContract = false) (step : Micro) (s : StateDef)
    (hs : (!s.inv.isEmpty || !s.post.isEmpty) = true) (rs rs' : RS PyCtx ω) (sent : List Sent)
    (h : enterState env step s rs = (.ok sent, rs')) :
    assocGet (.state s.name) rs'.st.ctx.old = some rs.st.ctx.vars := by
  unfold enterState at h
  obtain ⟨_, r1, h1, h⟩ := bind_ok.1 h
  have e1 := evalContract_pre_st env hE hc (.state s) hs step.event rs
  rw [h1] at e1
  have key : SameOld r1 rs' := Rel.of_eq h <|
    Rel.bind SameOld_pre (fun _ => rfl) fun _ => Rel.bind SameOld_pre (runCode_old env hE _ _) fun _ =>
    Rel.bind SameOld_pre (fun _ => rfl) fun _ => Rel.bind SameOld_pre (sameOld_raiseMeta env _) fun _ =>
    Rel.pure SameOld_pre _
  rw [show rs'.st.ctx.old = r1.st.ctx.old from key, e1]
  exact pyFreeze_old rs.st.ctx (.state s)

/-- what a postcondition or an invariant is shown as `__old__` is the entry of its object in the store -/
theorem shown_old_is_the_entry (st : IState PyCtx) (kind : CondKind) (hk : kind ≠ .pre) (obj : Obj) (code : Code)
    (ev : Option Event) :
    pyCond st kind obj code ev =
      pyEval { viewEnv st with
        event := some ev, sentNames := some (sentNames st), received := some (ev.map (·.name)),
        old := some (match assocGet obj.id st.ctx.old with
                     | some d => Val.old d
                     | none => Val.nothing),
        entryT := some (assocGet (ownerOf obj) st.entryTime),
        idleT := some (assocGet (ownerOf obj) st.idleTime) } st.ctx code := by
  cases kind with
  | pre => exact absurd rfl hk
  | post => rfl
  | inv => rfl

end Sismic
