import Sismic.Proofs.EditTree
import Sismic.Model.IO
/-!
# Sismic.Proofs.Import — what `add_state` / `add_transition` / `validate` guarantee of a chart
built by `import_from_dict`
-/
namespace Sismic

/-! ### lookups in a document, one turn of the work list -/

theorem get_append (a b : List (String × Data)) (k : String) :
    (Data.map (a ++ b)).get? k = ((Data.map a).get? k).or ((Data.map b).get? k) := by
  simp only [Data.get?, List.find?_append]
  cases a.find? (fun p => p.1 == k) <;> simp

theorem get_cons_ne (k k' : String) (v : Data) (l : List (String × Data)) (h : k ≠ k') :
    (Data.map ((k, v) :: l)).get? k' = (Data.map l).get? k' := by
  simp [Data.get?, h]

theorem get_cons_same (k : String) (v : Data) (l : List (String × Data)) :
    (Data.map ((k, v) :: l)).get? k = some v := by
  simp [Data.get?]

theorem get_single_same (k : String) (v : Data) : (Data.map [(k, v)]).get? k = some v :=
  get_cons_same k v []

theorem get_single_ne (k k' : String) (v : Data) (h : k ≠ k') : (Data.map [(k, v)]).get? k' = none :=
  get_cons_ne k k' v [] h

theorem importLoop_snoc (F : Nat) (todo : List (Data × Option Name)) (d : Data) (par : Option Name)
    (sts : List (StateDef × Option Name)) (ts : List Trans) :
    importLoop (F+1) (todo ++ [(d, par)]) sts ts =
      match importState d with
      | .error _ => .error .statechart
      | .ok st =>
        match importSubs d st with
        | .error e => .error e
        | .ok subs =>
          match importTds d with
          | .error e => .error e
          | .ok tds =>
            match tds.mapM (importTransition st.name) with
            | .error _ => .error .statechart
            | .ok new =>
              importLoop F (todo ++ subs.map (fun s => (s, some st.name))) (sts ++ [(st, par)]) (ts ++ new) := by
  rw [importLoop]
  simp only [List.getLast?_concat, List.dropLast_concat]
  rfl

namespace Chart

/-- structural soundness of the state tree (C12) -/
structure TreeSound (c : Chart) : Prop where
  /-- state names are unique -/
  names : (c.states.map (·.name)).Nodup
  /-- every state has exactly one parent entry, in the same order -/
  keys : c.parent.map (·.1) = c.states.map (·.name)
  /-- a parent is a state registered *before* its child (so the parent map is a forest), composite,
      and compound if the child is a history state -/
  parents : ∀ i n p, c.parent[i]? = some (n, some p) →
    p ∈ (c.states.take i).map (·.name) ∧
    ∃ ps, c.stateFor p = some ps ∧ ps.kind.isComposite = true ∧
      ∀ s, c.states[i]? = some s → s.kind.isHistory = true → ps.kind = .compound
  /-- one root, first, and not a history state: with `parents`, one tree -/
  oneRoot : ∀ i n, c.parent[i]? = some (n, none) → i = 0 ∧ ∀ s, c.states[i]? = some s → s.kind.isHistory = false
  /-- the children lists only list actual children -/
  children : ∀ q ch, ch ∈ c.childrenFor q → c.parentFor ch = some q

theorem root_none_parent (c : Chart) (h : c.root = none) : ∀ (i : Nat) (n : Name), c.parent[i]? ≠ some (n, none) := by
  intro i n hi
  simp only [root, Option.map_eq_none_iff] at h
  have := List.find?_eq_none.mp h (n, none) (List.mem_of_getElem? hi)
  simp at this

theorem getElem?_concat_cases {α} {l : List α} {a x : α} {i : Nat} (h : (l ++ [a])[i]? = some x) :
    l[i]? = some x ∨ (i = l.length ∧ a = x) := by
  rw [List.getElem?_append] at h
  split at h
  · exact Or.inl h
  · next hlt =>
    cases hk : i - l.length with
    | zero => rw [hk] at h; exact Or.inr ⟨by omega, Option.some.inj h⟩
    | succ k => rw [hk] at h; cases h

/-- the order of registration (what `TreeSound` adds to `Tidy`) is kept by `add_state`; that children
    lists list children is part of `Tidy` -/
theorem addState_sound (c : Chart) (s : StateDef) (par : Option Name) (hc : c.TreeSound) (ht : Tidy c)
    (h : (c.addState s par).1 = .ok ()) : (c.addState s par).2.TreeSound := by
  obtain ⟨_, hst, hpa, _, _, hparN, hparS⟩ := addState_effect c s par h
  have ht' := addState_tidy c s par ht h
  have hlen : c.parent.length = c.states.length := by
    have := congrArg List.length hc.keys; simpa using this
  refine ⟨ht'.names, ?_, ?_, ?_, fun q ch hmem => (ht'.childParent q ch).mp hmem⟩
  · rw [hst, hpa, List.map_append, List.map_append, hc.keys]; rfl
  · intro i n p hi
    rw [hpa] at hi
    rw [hst]
    have hstate : ∀ ps, c.stateFor p = some ps → (c.addState s par).2.stateFor p = some ps := fun ps h2 => by
      show (c.addState s _).2.states.find? _ = _
      rw [hst]; exact stateFor_added c s par h2
    rcases getElem?_concat_cases hi with hi | ⟨hi', hx⟩
    · obtain ⟨h1, ps, h2, h3, h4⟩ := hc.parents i n p hi
      have hlt : i < c.parent.length := (List.getElem?_eq_some_iff.mp hi).1
      refine ⟨?_, ps, hstate ps h2, h3, ?_⟩
      · rw [List.take_append_of_le_length (by omega)]; exact h1
      · intro s' hs'
        rw [List.getElem?_append_left (by omega)] at hs'
        exact h4 s' hs'
    · obtain ⟨rfl, rfl⟩ := Prod.mk.inj hx
      obtain ⟨ps, h2, h3, h4⟩ := hparS p rfl
      have hi'' : i = c.states.length := by omega
      refine ⟨?_, ps, hstate ps h2, h3, ?_⟩
      · rw [hi'', List.take_left']
        · have : (c.stateFor p).isSome = true := by rw [h2]; rfl
          have hp : ¬ (c.hasState p = false) := by simp [hasState, this]
          rw [hasState_false_iff] at hp
          exact Classical.not_not.mp hp
        · rfl
      · intro s' hs'
        rw [hi'', List.getElem?_append_right (Nat.le_refl _)] at hs'
        simp only [Nat.sub_self, List.getElem?_cons_zero, Option.some.injEq] at hs'
        subst hs'
        exact h4
  · intro i n hi
    rw [hpa] at hi
    rw [hst]
    rcases getElem?_concat_cases hi with hi | ⟨hi', hx⟩
    · obtain ⟨h1, h2⟩ := hc.oneRoot i n hi
      have hlt : i < c.parent.length := (List.getElem?_eq_some_iff.mp hi).1
      refine ⟨h1, ?_⟩
      intro s' hs'
      rw [List.getElem?_append_left (by omega)] at hs'
      exact h2 s' hs'
    · -- the new entry has no parent: the chart was empty
      obtain ⟨rfl, rfl⟩ := Prod.mk.inj hx
      obtain ⟨hroot, hnh⟩ := hparN rfl
      have hempty : c.parent = [] := by
        cases hp : c.parent with
        | nil => rfl
        | cons x xs =>
          exfalso
          -- the first entry would be the root, or have a parent registered before it
          have h0 : c.parent[0]? = some x := by rw [hp]; rfl
          obtain ⟨xn, xp⟩ := x
          cases xp with
          | none => exact root_none_parent c hroot 0 xn h0
          | some q =>
            have := (hc.parents 0 xn q h0).1
            simp at this
      have hi0 : i = 0 := by rw [hi', hempty]; rfl
      have hs0 : c.states = [] := List.length_eq_zero_iff.mp (by rw [← hlen, hempty]; rfl)
      refine ⟨hi0, ?_⟩
      intro s' hs'
      rw [hi0, hs0] at hs'
      simp only [List.nil_append, List.getElem?_cons_zero, Option.some.injEq] at hs'
      subst hs'
      exact hnh

theorem addTransition_sound (c : Chart) (t : Trans) (hc : c.TreeSound)
    (h : (c.addTransition t).1 = .ok ()) : (c.addTransition t).2.TreeSound := by
  obtain ⟨he, _, _⟩ := addTransition_effect c t h
  rw [he]
  exact ⟨hc.names, hc.keys, hc.parents, hc.oneRoot, hc.children⟩

end Chart

theorem foldl_bind_error {α β ε} (f : β → α → Except ε β) (e : ε) : ∀ l : List α,
    l.foldl (fun (acc : Except ε β) a => acc.bind (fun b => f b a)) (.error e) = .error e
  | [] => rfl
  | _ :: l => by
    simp only [List.foldl_cons]
    exact foldl_bind_error f e l

/-- **The rule for a fold of failing steps** over a list `L`: a relation `R` between what has been
    processed and the accumulator, kept by every step that succeeds, holds of `L` and the result; every
    error that a step raises, and so every error of the fold, satisfies `E`.  (`E := fun _ => True`: what
    a successful fold guarantees; `E := fun _ => False`: the fold succeeds.) -/
theorem foldl_bind_rule {α β ε} (f : β → α → Except ε β) (L : List α) (R : List α → β → Prop) (E : ε → Prop)
    (step : ∀ done a rest b, L = done ++ a :: rest → R done b →
      (∀ b', f b a = .ok b' → R (done ++ [a]) b') ∧ (∀ e, f b a = .error e → E e)) :
    ∀ (rest done : List α) (b : β), L = done ++ rest → R done b →
      (∀ b', rest.foldl (fun (acc : Except ε β) a => acc.bind (fun b => f b a)) (.ok b) = .ok b' → R L b') ∧
      (∀ e, rest.foldl (fun (acc : Except ε β) a => acc.bind (fun b => f b a)) (.ok b) = .error e → E e)
  | [], done, b, hL, hR => by
    rw [List.append_nil] at hL; subst hL
    exact ⟨fun b' h => Except.ok.inj h ▸ hR, nofun⟩
  | a :: rest, done, b, hL, hR => by
    have hs := step done a rest b hL hR
    rw [List.foldl_cons]
    show (∀ b', List.foldl _ (f b a) rest = .ok b' → R L b') ∧ (∀ e, List.foldl _ (f b a) rest = .error e → E e)
    cases hf : f b a with
    | error e =>
      rw [foldl_bind_error]
      exact ⟨nofun, fun e' h => Except.error.inj h ▸ hs.2 e hf⟩
    | ok b' => exact foldl_bind_rule f L R E step rest (done ++ [a]) b' (by rw [hL, List.append_assoc]; rfl) (hs.1 b' hf)

theorem addStateStep_ok {c c' : Chart} {p : StateDef × Option Name} :
    addStateStep c p = .ok c' ↔ (c.addState p.1 p.2).1 = .ok () ∧ (c.addState p.1 p.2).2 = c' := by
  unfold addStateStep
  generalize c.addState p.1 p.2 = r
  obtain ⟨_ | _, c1⟩ := r <;> simp

theorem addTransStep_ok {c c' : Chart} {t : Trans} :
    addTransStep c t = .ok c' ↔ (c.addTransition { t with id := c.transitions.length }).1 = .ok () ∧
      (c.addTransition { t with id := c.transitions.length }).2 = c' := by
  unfold addTransStep
  generalize c.addTransition { t with id := c.transitions.length } = r
  obtain ⟨_ | _, c1⟩ := r <;> simp

theorem buildChart_ok {c0 c : Chart} {sts : List (StateDef × Option Name)} {ts : List Trans} :
    buildChart c0 sts ts = .ok c ↔ ∃ c1,
      sts.foldl (fun (acc : Except IOErr Chart) p => acc.bind (fun c => addStateStep c p)) (.ok c0) = .ok c1 ∧
      ts.foldl (fun (acc : Except IOErr Chart) t => acc.bind (fun c => addTransStep c t)) (.ok c1) = .ok c ∧
      c.validate = true := by
  unfold buildChart
  cases sts.foldl (fun (acc : Except IOErr Chart) p => acc.bind (fun c => addStateStep c p)) (.ok c0) with
  | error e => simp
  | ok c1 =>
    simp only [Except.ok.injEq, exists_eq_left']
    cases ts.foldl (fun (acc : Except IOErr Chart) t => acc.bind (fun c => addTransStep c t)) (.ok c1) with
    | error e => simp
    | ok c2 =>
      simp only [Except.ok.injEq]
      split
      · next hv => exact ⟨fun h => by cases h; exact ⟨rfl, hv⟩, fun h => by rw [h.1]⟩
      · next hv => exact ⟨nofun, fun h => absurd (h.1 ▸ h.2) hv⟩

structure Sound (c : Chart) : Prop where
  tree : c.TreeSound
  trans : c.TransOK
  valid : c.validate = true

theorem buildChart_sound (c0 c : Chart) (sts : List (StateDef × Option Name)) (ts : List Trans)
    (h0 : c0.TreeSound ∧ Tidy c0 ∧ c0.TransOK) (h : buildChart c0 sts ts = .ok c) : Sound c := by
  obtain ⟨c1, h1, h2, hv⟩ := buildChart_ok.mp h
  have s1 := (foldl_bind_rule addStateStep sts (fun _ c => c.TreeSound ∧ Tidy c ∧ c.TransOK) (fun _ => True)
    (fun _ p _ b _ hb => ⟨fun b' hf => by
      obtain ⟨hok, rfl⟩ := addStateStep_ok.mp hf
      exact ⟨Chart.addState_sound b p.1 p.2 hb.1 hb.2.1 hok, addState_tidy b p.1 p.2 hb.2.1 hok,
        Chart.addState_transOK b p.1 p.2 hb.2.2 hok⟩, fun _ _ => trivial⟩)
    sts [] c0 rfl h0).1 c1 h1
  have s2 := (foldl_bind_rule addTransStep ts (fun _ c => c.TreeSound ∧ c.TransOK) (fun _ => True)
    (fun _ t _ b _ hb => ⟨fun b' hf => by
      obtain ⟨hok, rfl⟩ := addTransStep_ok.mp hf
      exact ⟨Chart.addTransition_sound b _ hb.1 hok, Chart.addTransition_transOK b _ hb.2 hok⟩, fun _ _ => trivial⟩)
    ts [] c1 rfl ⟨s1.1, s1.2.2⟩).1 c h2
  exact ⟨s2.1, s2.2, hv⟩

theorem emptyChart_sound (name : String) (descr : Option String) (pre : Option Code) :
    let c0 : Chart := { name := name, description := descr, preamble := pre, children := [(none, [])] }
    c0.TreeSound ∧ Tidy c0 ∧ c0.TransOK := by
  refine ⟨⟨List.nodup_nil, rfl, ?_, ?_, ?_⟩, empty_tidy' name descr pre, ?_⟩
  · intro i n p hi; simp at hi
  · intro i n hi; simp at hi
  · intro q ch hm; simp [Chart.childrenFor] at hm
  · intro t ht; simp at ht

theorem importDict_sound (fuel : Nat) (d : Data) (c : Chart) (h : importDict fuel d = .ok c) : Sound c := by
  unfold importDict at h
  cases h1 : d.get? "statechart" with
  | none => rw [h1] at h; exact absurd h (by simp)
  | some sc =>
    rw [h1] at h
    simp only at h
    split at h
    next name root _ _ =>
      split at h
      · exact absurd h (by simp)
      next sts ts _ => exact buildChart_sound _ c sts ts (emptyChart_sound _ _ _) h
    · exact absurd h (by simp)

end Sismic
