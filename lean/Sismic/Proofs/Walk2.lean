import Sismic.Proofs.Frame
/-!
# Sismic.Proofs.Walk2 — one walk through `execute_once` for two interpreters side by side

`Walk₂ env env' St P`: `P` is a relational logic between computations of the two interpreters (its
rules are fields), `St` what it says of the two states after `get`; the remaining fields say how
the few steps in which the two runs can really differ are related (calling a listener, evaluating a
contract, looking up a state, running code, the history bookkeeping, the guard evaluations and the
plan of `_compute_steps`, the choice of the stabilisation step).  Every other part of
`execute_once` only combines these, so it is related by `P` as well: `Walk₂.executeOnce`.
Instances: the run that ignores contracts against the run that checks them (`Proofs/Sim.lean`,
C09), two declaration orders of one statechart (`Proofs/Equiv.lean`, C07).
-/
namespace Sismic
open M

variable {σ ω : Type}

def Effect.notCond : Effect → Bool
  | .cond .. => false
  | _ => true

theorem Effect.notCond_eq (e : Effect) : e.notCond = !e.isCond := by cases e <;> rfl

/-- the two instances let the states differ in `memory` resp. `ctx`; `f` looks at neither -/
def Frame₂ (f : IState σ → IState σ) : Prop :=
  ∀ s m x, f { s with memory := m, ctx := x } = { f s with memory := m, ctx := x }

theorem Frame₂.memory {f : IState σ → IState σ} (hf : Frame₂ f) (s : IState σ) : (f s).memory = s.memory := by
  have h := congrArg IState.memory (hf s s.memory s.ctx)
  exact h

theorem Frame₂.ctx {f : IState σ → IState σ} (hf : Frame₂ f) (s : IState σ) : (f s).ctx = s.ctx := by
  have h := congrArg IState.ctx (hf s s.memory s.ctx)
  exact h

theorem Frame₂.setMemory {f : IState σ → IState σ} (hf : Frame₂ f) (s : IState σ) (m : List (Name × List Name)) :
    f { s with memory := m } = { f s with memory := m } :=
  (hf s m s.ctx).trans (congrArg (fun x => ({ f s with memory := m, ctx := x } : IState σ)) (hf.ctx s).symm)

theorem Frame₂.setCtx {f : IState σ → IState σ} (hf : Frame₂ f) (s : IState σ) (x : σ) :
    f { s with ctx := x } = { f s with ctx := x } :=
  (hf s s.memory x).trans (congrArg (fun m => ({ f s with memory := m, ctx := x } : IState σ)) (hf.memory s).symm)

theorem popEvent_frame₂ : Frame₂ (fun st : IState σ => (popEvent st).2) := by
  intro s m x
  obtain ⟨_, h1, h2⟩ := popEvent_congr s { s with memory := m, ctx := x } rfl rfl rfl
  show (popEvent _).2 = { (popEvent s).2 with memory := m, ctx := x }
  rw [popEvent_queues { s with memory := m, ctx := x }, h1, h2, popEvent_queues s]

theorem guardOk_congr {E : Evaluator σ} {s s' : IState σ} (hg : E.guard s' = E.guard s)
    (ev : Option Event) : guardOk E s' ev = guardOk E s ev := by
  funext t exposed
  simp only [guardOk, hg]

theorem selCalls_congr (c : Chart) {E : Evaluator σ} {s s' : IState σ} (hg : E.guard s' = E.guard s)
    (hp : peekEvent s' = peekEvent s) (hc : s'.config = s.config) : selCalls c E s' = selCalls c E s := by
  simp only [selCalls, hp, hc, guardOk_congr hg]

theorem planOf_congr (c : Chart) {E : Evaluator σ} {s s' : IState σ} (hg : E.guard s' = E.guard s)
    (hp : peekEvent s' = peekEvent s) (hc : s'.config = s.config) : planOf c E s' = planOf c E s := by
  simp only [planOf, hp, hc, guardOk_congr hg]

structure StAgree (s₁ s₂ : IState σ) : Prop where
  initialized : s₂.initialized = s₁.initialized
  config : s₂.config = s₁.config
  listeners : s₂.listeners = s₁.listeners
  intQ : s₂.intQ = s₁.intQ
  extQ : s₂.extQ = s₁.extQ
  time : s₂.time = s₁.time

structure Walk₂ (env env' : Env σ ω) (St : IState σ → IState σ → Prop)
    (P : ∀ {α : Type}, (α → α → Prop) → M σ ω α → M σ ω α → Prop) : Prop where
  pure : ∀ {α : Type} (a : α), P Eq (M.pure a) (M.pure a)
  throw : ∀ {α : Type} (e : Err), P (α := α) Eq (M.throw e) (M.throw e)
  bind : ∀ {α β : Type} {Rv : α → α → Prop} {Rw : β → β → Prop} {f₁ f₂ : M σ ω α} {g₁ g₂ : α → M σ ω β},
    P Rv f₁ f₂ → (∀ a₁ a₂, Rv a₁ a₂ → P Rw (g₁ a₁) (g₂ a₂)) → P Rw (M.bind f₁ g₁) (M.bind f₂ g₂)
  get : P St M.get M.get
  agree : ∀ s₁ s₂, St s₁ s₂ → StAgree s₁ s₂
  modify : ∀ f, Frame₂ f → P Eq (M.modify f) (M.modify f)
  emit : ∀ e : Effect, e.notCond = true → P Eq (M.emit e) (M.emit e)
  listener : ∀ m l, P Eq (callListener env m l) (callListener env' m l)
  contract : ∀ kind obj ev, P Eq (evalContract env kind obj ev) (evalContract env' kind obj ev)
  stateFor : ∀ n, env'.chart.stateFor n = env.chart.stateFor n
  runCode : ∀ k ev, P Eq (runCode env k ev) (runCode env' k ev)
  /-- each side over its own children list: two declaration orders list the children differently -/
  saveMemory : ∀ cfg0 s, P Eq (saveMemory env cfg0 s (env.chart.childrenFor s.name))
    (saveMemory env' cfg0 s (env'.chart.childrenFor s.name))
  root : env'.chart.root = env.chart.root
  guards : ∀ s₁ s₂, St s₁ s₂ → P Eq (logGuards env s₁ (peekEvent s₁) (selCalls env.chart env.E s₁))
    (logGuards env' s₂ (peekEvent s₂) (selCalls env'.chart env'.E s₂))
  plan : ∀ s₁ s₂, St s₁ s₂ → planOf env'.chart env'.E s₂ = planOf env.chart env.E s₁
  stab : ∀ s₁ s₂, St s₁ s₂ →
    stabilizationStep env'.chart s₂.memory s₂.config = stabilizationStep env.chart s₁.memory s₁.config
  sortConfig : ∀ cfg, env'.chart.sortConfig cfg = env.chart.sortConfig cfg
  stabFuel : env'.stabFuel = env.stabFuel

namespace Walk₂
variable {env env' : Env σ ω} {St : IState σ → IState σ → Prop}
  {P : ∀ {α : Type}, (α → α → Prop) → M σ ω α → M σ ω α → Prop} (H : Walk₂ env env' St P)
include H

theorem bindE {α β : Type} {Rw : β → β → Prop} {f₁ f₂ : M σ ω α} {g₁ g₂ : α → M σ ω β}
    (hf : P Eq f₁ f₂) (hg : ∀ a, P Rw (g₁ a) (g₂ a)) : P Rw (M.bind f₁ g₁) (M.bind f₂ g₂) :=
  H.bind hf (fun a₁ _ e => e ▸ hg a₁)

theorem forEach {γ : Type} {f₁ f₂ : γ → M σ ω Unit} (hf : ∀ x, P Eq (f₁ x) (f₂ x)) :
    ∀ l : List γ, P Eq (M.forEach f₁ l) (M.forEach f₂ l)
  | [] => H.pure ()
  | x :: xs => H.bindE (hf x) (fun _ => forEach hf xs)

theorem collect {γ : Type} {f₁ f₂ : γ → M σ ω (List Sent)} (hf : ∀ x, P Eq (f₁ x) (f₂ x)) :
    ∀ l : List γ, P Eq (collect f₁ l) (collect f₂ l)
  | [] => H.pure _
  | x :: xs => H.bindE (hf x) (fun _ => H.bindE (collect hf xs) (fun _ => H.pure _))

theorem stateObj (n : Name) : P Eq (stateObj env n) (stateObj env' n) := by
  unfold Sismic.stateObj
  rw [H.stateFor]
  split
  · exact H.pure _
  · exact H.throw _

theorem stateObjs : ∀ ns : List Name, P Eq (stateObjs env ns) (stateObjs env' ns)
  | [] => H.pure _
  | n :: ns => H.bindE (H.stateObj n) (fun _ => H.bindE (stateObjs ns) (fun _ => H.pure _))

theorem raiseMeta (m : Event) : P Eq (raiseMeta env m) (raiseMeta env' m) := by
  apply H.bindE (H.emit _ rfl); intro _
  apply H.bind H.get; intro s₁ s₂ hs
  rw [(H.agree _ _ hs).listeners]
  exact H.forEach (H.listener m) _

theorem queueEvent (i : Bool) (e : Event) : P Eq (queueEvent i e) (queueEvent i e) := by
  apply H.modify
  intro s m x; cases i <;> rfl

theorem raiseSent : ∀ s : Sent, P Eq (raiseSent env s) (raiseSent env' s)
  | .notify m => H.raiseMeta m
  | .internal e => by
    unfold Sismic.raiseSent
    apply H.bindE (H.queueEvent true e); intro _
    apply H.bindE (H.raiseMeta _); intro _
    exact rel_ite _ (H.raiseMeta _) (H.pure ())

theorem raiseAll (sent : List Sent) : P Eq (raiseAll env sent) (raiseAll env' sent) := by
  apply H.forEach; intro s
  apply H.bindE (H.raiseSent s); intro _
  exact H.modify _ (fun _ _ _ => rfl)

theorem exitState (cfg0 : List Name) (step : Micro) (s : StateDef) :
    P Eq (exitState env cfg0 step s) (exitState env' cfg0 step s) := by
  apply H.bindE (H.emit _ rfl); intro _
  apply H.bindE (H.runCode _ _); intro sent
  apply H.bindE (g₁ := fun _ => _) (g₂ := fun _ => _) (rel_ite _ (H.saveMemory cfg0 s) (H.pure _))
  intro _
  apply H.bind H.get; intro s₁ s₂ hs
  rw [(H.agree _ _ hs).config]
  apply H.bindE (g₁ := fun _ => _) (g₂ := fun _ => _) (rel_ite _ (H.throw _) (H.pure _))
  intro _
  apply H.bindE (H.modify _ (fun _ _ _ => rfl)); intro _
  apply H.bindE (H.contract _ _ _); intro _
  apply H.bindE (H.raiseMeta _); intro _
  exact H.pure _

theorem enterState (step : Micro) (s : StateDef) : P Eq (enterState env step s) (enterState env' step s) := by
  apply H.bindE (H.contract _ _ _); intro _
  apply H.bindE (H.emit _ rfl); intro _
  apply H.bindE (H.runCode _ _); intro sent
  apply H.bindE (H.modify _ (fun _ _ _ => rfl)); intro _
  apply H.bindE (H.raiseMeta _); intro _
  exact H.pure _

theorem fireTransition (step : Micro) (t : Trans) :
    P Eq (fireTransition env step t) (fireTransition env' step t) := by
  apply H.bindE (H.contract _ _ _); intro _
  apply H.bindE (H.contract _ _ _); intro _
  apply H.bindE (H.emit _ rfl); intro _
  apply H.bindE (H.runCode _ _); intro sent
  apply H.bindE (H.contract _ _ _); intro _
  apply H.bindE (H.contract _ _ _); intro _
  apply H.bindE (H.modify _ (fun _ _ _ => rfl)); intro _
  apply H.bindE (H.raiseMeta _); intro _
  exact H.pure _

theorem applyStep (step : Micro) : P Eq (applyStep env step) (applyStep env' step) := by
  apply H.bindE (H.stateObjs _); intro entered
  apply H.bindE (H.stateObjs _); intro exited
  apply H.bind H.get; intro s₁ s₂ hs
  rw [(H.agree _ _ hs).config]
  apply H.bindE (H.collect (H.exitState s₁.config step) exited); intro s1
  apply H.bindE (g₁ := fun _ => _) (g₂ := fun _ => _)
  · split
    · exact H.fireTransition step _
    · exact H.pure _
  intro s2
  apply H.bindE (H.collect (H.enterState step) entered); intro s3
  apply H.bindE (H.raiseAll _); intro _
  exact H.pure _

theorem stabilize : ∀ n : Nat, P Eq (stabilize env n) (stabilize env' n)
  | 0 => H.throw _
  | n+1 => by
    apply H.bind H.get; intro s₁ s₂ hs
    rw [H.stab _ _ hs]
    split
    · exact H.pure _
    · exact H.bindE (H.applyStep _) (fun _ => H.bindE (stabilize n) (fun _ => H.pure _))

theorem applyAll : ∀ steps : List Micro, P Eq (applyAll env steps) (applyAll env' steps)
  | [] => H.pure _
  | s :: rest => by
    apply H.bindE (H.applyStep s); intro a
    rw [H.stabFuel]
    exact H.bindE (H.stabilize _) (fun _ => H.bindE (applyAll rest) (fun _ => H.pure _))

theorem finishStep (ms : Option MacroStep) : P Eq (finishStep env ms) (finishStep env' ms) := by
  apply H.bind H.get; intro s₁ s₂ hs
  rw [(H.agree _ _ hs).config, H.sortConfig]
  apply H.bindE
  · apply H.forEach; intro n
    exact H.bindE (H.stateObj n) (fun _ => H.contract _ _ _)
  intro _
  apply H.bindE (H.raiseMeta _); intro _
  exact H.pure _

theorem runSteps : ∀ computed : List Micro, P Eq (runSteps env computed) (runSteps env' computed)
  | [] => H.pure _
  | first :: rest => by
    apply H.bindE (g₁ := fun _ => _) (g₂ := fun _ => _)
    · split
      · apply H.bind H.get; intro s₁ s₂ hs
        have ha := H.agree _ _ hs
        rw [(popEvent_congr s₁ s₂ ha.intQ ha.extQ ha.time).1]
        apply H.bindE (H.modify _ popEvent_frame₂); intro _
        exact H.raiseMeta _
      · exact H.pure _
    intro _
    apply H.bindE (H.applyAll _); intro executed
    apply H.bind H.get; intro s₁ s₂ hs
    rw [(H.agree _ _ hs).time]
    exact H.pure _

theorem computeSteps : P Eq (computeSteps env) (computeSteps env') := by
  rw [computeSteps_def, computeSteps_def]
  apply H.bind H.get; intro s₁ s₂ hs
  rw [(H.agree _ _ hs).initialized, H.root, H.plan _ _ hs]
  apply rel_ite
  · exact H.bindE (H.modify _ (fun _ _ _ => rfl)) (fun _ => H.pure _)
  · apply H.bindE (H.guards _ _ hs); intro _
    cases planOf env.chart env.E s₁ with
    | ok l => exact H.pure l
    | error e => cases e <;> exact H.throw _

theorem executeOnce (clock : Int) : P Eq (executeOnce env clock) (executeOnce env' clock) := by
  apply H.bindE (H.modify _ (fun _ _ _ => rfl)); intro _
  apply H.bindE (H.raiseMeta _); intro _
  apply H.bindE H.computeSteps; intro computed
  apply H.bindE (H.runSteps computed); intro ms
  exact H.finishStep ms

end Walk₂

end Sismic
