import Sismic.Model.Runner
/-!
# Sismic.Proofs.Runner — invariants of the runner/client system over all schedules
-/
namespace Sismic.Runner

variable {ι ε μ : Type}

def inCycle : RPc → Bool
  | .execFirst | .execMore | .afterExecute => true
  | _ => false

structure Inv (s : St ι ε μ) : Prop where
  reported : s.reported.flatten ++ s.cycle = s.executed
  idle : inCycle s.pc = false → s.cycle = []
  one : s.executeAll = false → (∀ c ∈ s.reported, c.length ≤ 1) ∧
        (s.pc = .execFirst → s.cycle = []) ∧ s.pc ≠ .execMore ∧ s.cycle.length ≤ 1
  first : s.pc = .execFirst → s.cycle = []
  before : s.beforeRun = (if s.pc = .notStarted ∨ s.pc = .beforeRun then 0 else 1)
  after : s.afterRun = (if s.pc = .done then 1 else 0)

theorem inv_init (it : ι) (all : Bool) (cl : List (List (CAct ε))) :
    Inv ({ it := it, executeAll := all, clients := cl } : St ι ε μ) where
  reported := rfl
  idle _ := rfl
  one _ := ⟨by simp, fun _ => rfl, by simp, by simp⟩
  first _ := rfl
  before := by simp
  after := by simp

/-- what one atomic action of the runner thread is, program point by program point
    (`runnerStep I s = some s'` read as a relation) -/
inductive RStep (I : Interp ι ε μ) (s : St ι ε μ) : St ι ε μ → Prop
  | beforeRun : s.pc = .beforeRun → RStep I s { s with beforeRun := s.beforeRun + 1, pc := .waitA }
  | wait : s.pc = .waitA ∨ s.pc = .waitB → s.unpaused = true → RStep I s { s with pc := .readFinal }
  | readFinal : s.pc = .readFinal → RStep I s { s with pc := if I.fin s.it then .setStop else .isSetStop }
  | isSetStop : s.pc = .isSetStop → RStep I s { s with pc := if s.stop then .setStop else .beforeExecute }
  | beforeExecute : s.pc = .beforeExecute → RStep I s { s with cycles := s.cycles + 1, cycle := [], pc := .execFirst }
  | execNone (it' : ι) : s.pc = .execFirst ∨ s.pc = .execMore → I.exec s.it = (none, it') →
      RStep I s { s with it := it', pc := .afterExecute }
  | execSome (m : μ) (it' : ι) : s.pc = .execFirst ∨ s.pc = .execMore → I.exec s.it = (some m, it') →
      RStep I s { s with it := it', cycle := s.cycle ++ [m], executed := s.executed ++ [m],
                         pc := if s.executeAll then .execMore else .afterExecute }
  | afterExecute : s.pc = .afterExecute → RStep I s { s with reported := s.reported ++ [s.cycle], cycle := [], pc := .sleep }
  | sleep : s.pc = .sleep → RStep I s { s with pc := .waitB }
  | setStop : s.pc = .setStop → RStep I s { s with stop := true, pc := .afterRun }
  | afterRun : s.pc = .afterRun → RStep I s { s with afterRun := s.afterRun + 1, pc := .done }

theorem RStep.of_runnerStep (I : Interp ι ε μ) {s s' : St ι ε μ} (hs : runnerStep I s = some s') : RStep I s s' := by
  unfold runnerStep at hs
  cases hpc : s.pc <;> simp only [hpc] at hs
  case notStarted => cases hs
  case done => cases hs
  case waitA => split at hs <;> cases hs; exact .wait (.inl hpc) ‹_›
  case waitB => split at hs <;> cases hs; exact .wait (.inr hpc) ‹_›
  case execFirst =>
    cases he : I.exec s.it with
    | mk r it' =>
      cases r with
      | none => simp only [he] at hs; cases hs; exact .execNone it' (.inl hpc) he
      | some m => simp only [he] at hs; cases hs; exact .execSome m it' (.inl hpc) he
  case execMore =>
    cases he : I.exec s.it with
    | mk r it' =>
      cases r with
      | none => simp only [he] at hs; cases hs; exact .execNone it' (.inr hpc) he
      | some m => simp only [he] at hs; cases hs; exact .execSome m it' (.inr hpc) he
  case beforeRun => cases hs; exact .beforeRun hpc
  case readFinal => cases hs; exact .readFinal hpc
  case isSetStop => cases hs; exact .isSetStop hpc
  case beforeExecute => cases hs; exact .beforeExecute hpc
  case afterExecute => cases hs; exact .afterExecute hpc
  case sleep => cases hs; exact .sleep hpc
  case setStop => cases hs; exact .setStop hpc
  case afterRun => cases hs; exact .afterRun hpc

/-- a move between two program points outside a cycle that leaves the bookkeeping lists alone
    keeps the invariant, provided the hook counters fit the new program point -/
theorem Inv.quiet {s s' : St ι ε μ} (h : Inv s)
    (hc : s'.cycle = s.cycle) (he : s'.executed = s.executed) (hr : s'.reported = s.reported)
    (ha : s'.executeAll = s.executeAll)
    (hin : inCycle s.pc = false) (hin' : inCycle s'.pc = false)
    (hb : s'.beforeRun = if s'.pc = .notStarted ∨ s'.pc = .beforeRun then 0 else 1)
    (haf : s'.afterRun = if s'.pc = .done then 1 else 0) : Inv s' := by
  have hcy : s'.cycle = [] := hc ▸ h.idle hin
  refine ⟨by rw [hc, he, hr]; exact h.reported, fun _ => hcy, fun hall => ?_, fun _ => hcy, hb, haf⟩
  have := h.one (ha ▸ hall)
  refine ⟨hr ▸ this.1, fun _ => hcy, ?_, by rw [hcy]; exact Nat.zero_le _⟩
  intro e; rw [e] at hin'; cases hin'

theorem inv_runnerStep (I : Interp ι ε μ) (s s' : St ι ε μ) (h : Inv s) (hs : runnerStep I s = some s') : Inv s' := by
  have hbef := h.before
  have haft := h.after
  cases RStep.of_runnerStep I hs with
  | beforeRun hpc =>
    rw [hpc] at hbef haft
    exact h.quiet rfl rfl rfl rfl (by rw [hpc]; rfl) rfl (by simp [hbef]) haft
  | wait hpc _ =>
    rcases hpc with hpc | hpc <;> rw [hpc] at hbef haft <;>
      exact h.quiet rfl rfl rfl rfl (by rw [hpc]; rfl) rfl hbef haft
  | readFinal hpc =>
    rw [hpc] at hbef haft
    cases I.fin s.it <;> exact h.quiet rfl rfl rfl rfl (by rw [hpc]; rfl) rfl hbef haft
  | isSetStop hpc =>
    rw [hpc] at hbef haft
    cases s.stop <;> exact h.quiet rfl rfl rfl rfl (by rw [hpc]; rfl) rfl hbef haft
  | sleep hpc => rw [hpc] at hbef haft; exact h.quiet rfl rfl rfl rfl (by rw [hpc]; rfl) rfl hbef haft
  | setStop hpc => rw [hpc] at hbef haft; exact h.quiet rfl rfl rfl rfl (by rw [hpc]; rfl) rfl hbef haft
  | afterRun hpc =>
    rw [hpc] at hbef haft
    exact h.quiet rfl rfl rfl rfl (by rw [hpc]; rfl) rfl hbef (by simp [haft])
  -- the program points of a cycle: here the lists change
  | beforeExecute hpc =>
    rw [hpc] at hbef haft
    have hc : s.cycle = [] := h.idle (by rw [hpc]; rfl)
    refine ⟨by simpa [hc] using h.reported, (nomatch ·), fun hall => ?_, fun _ => rfl, hbef, haft⟩
    exact ⟨(h.one hall).1, fun _ => rfl, (nomatch ·), Nat.zero_le _⟩
  | execNone it' hpc he =>
    have hb' : s.beforeRun = 1 ∧ s.afterRun = 0 := by
      rcases hpc with hpc | hpc <;> rw [hpc] at hbef haft <;> exact ⟨hbef, haft⟩
    refine ⟨h.reported, (nomatch ·), fun hall => ?_, (nomatch ·), hb'.1, hb'.2⟩
    exact ⟨(h.one hall).1, (nomatch ·), (nomatch ·), (h.one hall).2.2.2⟩
  | execSome m it' hpc he =>
    have hb' : s.beforeRun = 1 ∧ s.afterRun = 0 := by
      rcases hpc with hpc | hpc <;> rw [hpc] at hbef haft <;> exact ⟨hbef, haft⟩
    cases hall : s.executeAll
    · -- one step per cycle: this is the first
      have hc : s.cycle = [] := by
        rcases hpc with hpc | hpc
        · exact h.first hpc
        · exact absurd hpc (h.one hall).2.2.1
      refine ⟨by simp [← h.reported, hc], (nomatch ·), fun _ => ?_, (nomatch ·), hb'.1, hb'.2⟩
      exact ⟨(h.one hall).1, (nomatch ·), (nomatch ·), by simp [hc]⟩
    · exact ⟨by simp [← h.reported, List.append_assoc], (nomatch ·), (nomatch ·), (nomatch ·),
        hb'.1, hb'.2⟩
  | afterExecute hpc =>
    rw [hpc] at hbef haft
    refine ⟨by simp [← h.reported], fun _ => rfl, fun hall => ?_, fun _ => rfl, hbef, haft⟩
    refine ⟨?_, fun _ => rfl, (nomatch ·), Nat.zero_le _⟩
    intro c hc
    rcases List.mem_append.mp hc with hc | hc
    · exact (h.one hall).1 c hc
    · rw [List.mem_singleton.mp hc]; exact (h.one hall).2.2.2

end Sismic.Runner

namespace Sismic.Runner
variable {ι ε μ : Type}

/-- a client touches the flags, the queue and `startRaised`; of what the runner keeps it can only
    start the thread -/
theorem clientAct_frame (I : Interp ι ε μ) {s s' : St ι ε μ} {a : CAct ε} (hs : clientAct I s a = some s') :
    (s'.pc = s.pc ∨ (s.pc = .notStarted ∧ s'.pc = .beforeRun)) ∧ s'.executeAll = s.executeAll ∧
    s'.cycle = s.cycle ∧ s'.executed = s.executed ∧ s'.reported = s.reported ∧
    s'.beforeRun = s.beforeRun ∧ s'.afterRun = s.afterRun ∧ s'.cycles = s.cycles := by
  cases a <;> simp only [clientAct] at hs
  case startThread =>
    cases hs
    cases hp : s.pc == .notStarted
    · exact ⟨.inl rfl, rfl, rfl, rfl, rfl, rfl, rfl, rfl⟩
    · exact ⟨.inr ⟨beq_iff_eq.mp hp, rfl⟩, rfl, rfl, rfl, rfl, rfl, rfl, rfl⟩
  case join => split at hs <;> cases hs; exact ⟨.inl rfl, rfl, rfl, rfl, rfl, rfl, rfl, rfl⟩
  case startIsSet => cases hs; split <;> exact ⟨.inl rfl, rfl, rfl, rfl, rfl, rfl, rfl, rfl⟩
  all_goals (cases hs; exact ⟨.inl rfl, rfl, rfl, rfl, rfl, rfl, rfl, rfl⟩)

theorem Inv.of_fields {s s' : St ι ε μ} (h : Inv s) (hpc : s'.pc = s.pc) (ha : s'.executeAll = s.executeAll)
    (hc : s'.cycle = s.cycle) (he : s'.executed = s.executed) (hr : s'.reported = s.reported)
    (hb : s'.beforeRun = s.beforeRun) (haf : s'.afterRun = s.afterRun) : Inv s' := by
  obtain ⟨h1, h2, h3, h4, h5, h6⟩ := h
  refine ⟨?_, ?_, ?_, ?_, ?_, ?_⟩
  · rw [hr, hc, he]; exact h1
  · rw [hpc, hc]; exact h2
  · rw [ha, hr, hpc, hc]; exact h3
  · rw [hpc, hc]; exact h4
  · rw [hb, hpc]; exact h5
  · rw [haf, hpc]; exact h6

theorem inv_clientAct (I : Interp ι ε μ) (s s' : St ι ε μ) (a : CAct ε) (h : Inv s)
    (hs : clientAct I s a = some s') : Inv s' := by
  obtain ⟨hpc | ⟨hpc, hpc'⟩, ha, hc, he, hr, hb, haf, _⟩ := clientAct_frame I hs
  · exact h.of_fields hpc ha hc he hr hb haf
  · have hbef := h.before
    have haft := h.after
    rw [hpc] at hbef haft
    exact h.quiet hc he hr ha (by rw [hpc]; rfl) (by rw [hpc']; rfl) (by rw [hb, hpc']; exact hbef)
      (by rw [haf, hpc']; exact haft)

/-- what every runner step and every client action does to a state, one scheduled step does too
    (a blocked or finished thread leaves the state alone; a client also drops the action it ran) -/
theorem step_rule (I : Interp ι ε μ) (R : St ι ε μ → St ι ε μ → Prop) (hrefl : ∀ s, R s s)
    (hr : ∀ s s', runnerStep I s = some s' → R s s')
    (hc : ∀ s s' a cl, clientAct I s a = some s' → R s { s' with clients := cl }) (s : St ι ε μ) (tid : Nat) :
    R s (step I s tid) := by
  unfold step
  cases tid with
  | zero =>
    simp only
    cases h : runnerStep I s with
    | none => exact hrefl s
    | some s' => exact hr s s' h
  | succ k =>
    simp only
    split
    · next a rest _ =>
      split
      · next s' h => exact hc s s' a _ h
      · exact hrefl s
    · exact hrefl s

theorem inv_step (I : Interp ι ε μ) (s : St ι ε μ) (tid : Nat) (h : Inv s) : Inv (step I s tid) :=
  step_rule I (fun s s' => Inv s → Inv s') (fun _ h => h) (fun s s' hs h => inv_runnerStep I s s' h hs)
    (fun s s' a _ hs h => (inv_clientAct I s s' a h hs).of_fields rfl rfl rfl rfl rfl rfl rfl) s tid h

theorem inv_run (I : Interp ι ε μ) : ∀ (sched : List Nat) (s : St ι ε μ), Inv s → Inv (run I s sched)
  | [], s, h => h
  | t :: ts, s, h => by
    simp only [run, List.foldl_cons]
    exact inv_run I ts _ (inv_step I s t h)

/-! ### `execute_all` is fixed when the runner is created -/

theorem runnerStep_executeAll (I : Interp ι ε μ) (s s' : St ι ε μ) (hs : runnerStep I s = some s') :
    s'.executeAll = s.executeAll := by
  cases RStep.of_runnerStep I hs <;> rfl

theorem clientAct_executeAll (I : Interp ι ε μ) (s s' : St ι ε μ) (a : CAct ε) (hs : clientAct I s a = some s') :
    s'.executeAll = s.executeAll :=
  (clientAct_frame I hs).2.1

theorem run_executeAll (I : Interp ι ε μ) : ∀ (sched : List Nat) (s : St ι ε μ), (run I s sched).executeAll = s.executeAll
  | [], _ => rfl
  | t :: ts, s =>
    (run_executeAll I ts (step I s t)).trans
      (step_rule I (fun s s' => s'.executeAll = s.executeAll) (fun _ => rfl) (runnerStep_executeAll I)
        (fun s s' a _ hs => clientAct_executeAll I s s' a hs) s t)

/-! ### pause -/

/-- how many more cycles the runner can still start while it stays paused: one if it has passed the
    wait and has not called `before_execute` yet, none otherwise -/
def canStart : RPc → Nat
  | .readFinal | .isSetStop | .beforeExecute => 1
  | _ => 0

def potential (s : St ι ε μ) : Nat := s.cycles + canStart s.pc

theorem potential_runnerStep (I : Interp ι ε μ) (s s' : St ι ε μ) (hp : s.unpaused = false)
    (hs : runnerStep I s = some s') : potential s' ≤ potential s := by
  unfold potential
  cases RStep.of_runnerStep I hs with
  | wait _ hun => rw [hp] at hun; cases hun
  | readFinal hpc => rw [hpc]; cases I.fin s.it <;> simp [canStart]
  | isSetStop hpc => rw [hpc]; cases s.stop <;> simp [canStart]
  | beforeExecute hpc => rw [hpc]; simp [canStart]
  | execSome _ _ _ _ => cases s.executeAll <;> simp [canStart]
  | _ => simp [canStart]

theorem potential_clientAct (I : Interp ι ε μ) (s s' : St ι ε μ) (a : CAct ε)
    (hs : clientAct I s a = some s') : potential s' ≤ potential s := by
  obtain ⟨hpc | ⟨hpc, hpc'⟩, _, _, _, _, _, _, hcy⟩ := clientAct_frame I hs
  · rw [potential, potential, hpc, hcy]; exact Nat.le_refl _
  · rw [potential, potential, hpc, hpc', hcy]; exact Nat.le_refl _

/-- the runner stays paused along the schedule (no `unpause`, `start` or `stop` is executed) -/
def StaysPaused (I : Interp ι ε μ) : St ι ε μ → List Nat → Prop
  | s, [] => s.unpaused = false
  | s, t :: ts => s.unpaused = false ∧ StaysPaused I (step I s t) ts

theorem potential_step (I : Interp ι ε μ) (s : St ι ε μ) (tid : Nat) (hp : s.unpaused = false) :
    potential (step I s tid) ≤ potential s :=
  step_rule I (fun s s' => s.unpaused = false → potential s' ≤ potential s) (fun _ _ => Nat.le_refl _)
    (fun s s' hs hp => potential_runnerStep I s s' hp hs) (fun s s' a _ hs _ => potential_clientAct I s s' a hs) s tid hp

theorem paused_cycles (I : Interp ι ε μ) : ∀ (sched : List Nat) (s : St ι ε μ), StaysPaused I s sched →
    (run I s sched).cycles ≤ s.cycles + canStart s.pc
  | [], s, _ => by simp [run]
  | t :: ts, s, h => by
    simp only [run, List.foldl_cons]
    have ih := paused_cycles I ts (step I s t) h.2
    have hp := potential_step I s t h.1
    unfold potential at hp
    simp only [run] at ih
    omega

/-! ### stop -/

def rank : RPc → Nat
  | .done => 0 | .afterRun => 1 | .setStop => 2 | .isSetStop => 3 | .readFinal => 4
  | .waitA => 5 | .waitB => 5 | .sleep => 6 | .beforeRun => 6 | .afterExecute => 7
  | .execFirst => 8 | .execMore => 8 | .beforeExecute => 9 | .notStarted => 0

theorem stop_progress (I : Interp ι ε μ) (s : St ι ε μ) (hstop : s.stop = true) (hun : s.unpaused = true)
    (hall : s.executeAll = false) (hpc : s.pc ≠ .done) (hpc' : s.pc ≠ .notStarted) :
    ∃ s', runnerStep I s = some s' ∧ rank s'.pc < rank s.pc ∧ s'.stop = true ∧ s'.unpaused = true ∧
      s'.executeAll = false := by
  unfold runnerStep
  cases h : s.pc <;> simp only [h] at hpc hpc' ⊢
  case notStarted => exact absurd rfl hpc'
  case done => exact absurd rfl hpc
  case readFinal => refine ⟨_, rfl, ?_, hstop, hun, hall⟩; simp only; split <;> simp [rank]
  case isSetStop => refine ⟨_, rfl, ?_, hstop, hun, hall⟩; simp [hstop, rank]
  case waitA => simp only [hun, if_true]; exact ⟨_, rfl, by simp [rank], hstop, rfl, hall⟩
  case waitB => simp only [hun, if_true]; exact ⟨_, rfl, by simp [rank], hstop, rfl, hall⟩
  case execFirst =>
    cases he : I.exec s.it with
    | mk r it' => cases r <;> exact ⟨_, rfl, by simp [hall, rank], hstop, hun, hall⟩
  case execMore =>
    cases he : I.exec s.it with
    | mk r it' => cases r <;> exact ⟨_, rfl, by simp [hall, rank], hstop, hun, hall⟩
  case setStop => exact ⟨_, rfl, by simp [rank], rfl, hun, hall⟩
  all_goals exact ⟨_, rfl, by simp [rank], hstop, hun, hall⟩

/-! ### events: exactly once, in order (concrete FIFO interpreter) -/

def consumedAndPending (s : St QI String String) : List String :=
  s.executed.filter (fun e => e != "<init>") ++ s.it.pending

theorem qexec_cases (fin : String) (q : QI) :
    (q.initialized = false ∧ (qInterp fin).exec q = (some "<init>", { q with initialized := true })) ∨
    (q.initialized = true ∧ q.pending = [] ∧ (qInterp fin).exec q = (none, q)) ∨
    (q.initialized = true ∧ ∃ e r, q.pending = e :: r ∧
      (qInterp fin).exec q = (some e, { q with pending := r, final := q.final || e == fin })) := by
  cases hi : q.initialized with
  | false => left; simp [qInterp, hi]
  | true =>
    right
    cases hp : q.pending with
    | nil => left; simp [qInterp, hi, hp]
    | cons e r => right; exact ⟨rfl, e, r, rfl, by simp [qInterp, hi, hp]⟩

/-- an interpreter that consumes its queue in order: `pending` is what is queued, `view m` the event a
    macro step `m` consumed (none for a step that is no event, like the initialisation), `ok` whatever
    it needs of its own state -/
structure Fifo (I : Interp ι ε μ) (pending : ι → List ε) (view : μ → Option ε) (ok : ι → Prop) : Prop where
  idle : ∀ it it', ok it → I.exec it = (none, it') → pending it' = pending it ∧ ok it'
  pop : ∀ it m it', ok it → I.exec it = (some m, it') → (view m).toList ++ pending it' = pending it ∧ ok it'

/-- with such an interpreter a runner step leaves "consumed events, then pending events" as it is -/
theorem Fifo.runnerStep {I : Interp ι ε μ} {pending : ι → List ε} {view : μ → Option ε} {ok : ι → Prop}
    (hF : Fifo I pending view ok) {s s' : St ι ε μ} (hq : ok s.it) (hs : runnerStep I s = some s') :
    s'.executed.filterMap view ++ pending s'.it = s.executed.filterMap view ++ pending s.it ∧ ok s'.it := by
  cases RStep.of_runnerStep I hs with
  | execNone it' _ he =>
    obtain ⟨h1, h2⟩ := hF.idle _ _ hq he
    exact ⟨by rw [h1], h2⟩
  | execSome m it' _ he =>
    obtain ⟨h1, h2⟩ := hF.pop _ _ _ hq he
    refine ⟨?_, h2⟩
    show (s.executed ++ [m]).filterMap view ++ pending it' = _
    rw [List.filterMap_append, List.append_assoc, ← h1]
    cases h : view m <;> simp [List.filterMap_cons, h]
  | _ => exact ⟨rfl, hq⟩

/-- the FIFO interpreter of the tie: the initialisation step `"<init>"` is no event, and no event is
    called so -/
theorem qInterp_fifo (fin : String) :
    Fifo (qInterp fin) (·.pending) (Option.guard (fun e => e != "<init>")) (fun q => ∀ e ∈ q.pending, e ≠ "<init>") where
  idle it it' hq he := by
    rcases qexec_cases fin it with ⟨_, he'⟩ | ⟨_, _, he'⟩ | ⟨_, _, _, _, he'⟩ <;> rw [he'] at he <;> cases he
    exact ⟨rfl, hq⟩
  pop it m it' hq he := by
    rcases qexec_cases fin it with ⟨_, he'⟩ | ⟨_, _, he'⟩ | ⟨_, _, r, hp, he'⟩ <;> rw [he'] at he <;> cases he
    · exact ⟨by simp [Option.guard], hq⟩
    · have hne : m ≠ "<init>" := hq m (by rw [hp]; exact List.mem_cons_self)
      exact ⟨by simp [Option.guard, hne, hp], fun x hx => hq x (by rw [hp]; exact List.mem_cons_of_mem _ hx)⟩

theorem events_runnerStep (fin : String) (s s' : St QI String String)
    (hq : ∀ e ∈ s.it.pending, e ≠ "<init>") (hs : runnerStep (qInterp fin) s = some s') :
    consumedAndPending s' = consumedAndPending s ∧ ∀ e ∈ s'.it.pending, e ≠ "<init>" := by
  have := (qInterp_fifo fin).runnerStep hq hs
  rwa [List.filterMap_eq_filter] at this

end Sismic.Runner
