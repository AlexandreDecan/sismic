import Sismic.Proofs.EditValid
/-!
# `add_state` and `validate()`: the exact condition

On a statechart with consistent dictionaries on which `validate()` passes, a successful
`add_state(s, p)` leaves `validate()` passing **iff** `s` fits under `p` — a compound state comes
without `initial` (it has no child yet, so any `initial` dangles), and a history state comes
without `memory` or with a memory that already is another child of the same parent.  So nothing is
left open about `add_state`: the sessions after which `validate()` passes are exactly those whose
added states fit.  States that come without `initial` / `memory` (`Bare`) always fit.
-/
namespace Sismic
namespace Chart

/-- what `add_state(s, p)` may be handed for `validate()` to pass afterwards -/
def _root_.Sismic.StateDef.FitsUnder (s : StateDef) (c : Chart) (p : Option Name) : Prop :=
  (s.kind = .compound → s.initial = none) ∧
  (s.kind.isHistory = true → ∀ m, s.memory = some m →
    m ≠ s.name ∧ ∃ par, p = some par ∧ c.parentFor m = some par)

theorem StateDef.Bare.fitsUnder {s : StateDef} (h : s.Bare) (c : Chart) (p : Option Name) : s.FitsUnder c p :=
  ⟨h.1, fun hk m hm => by rw [h.2 hk] at hm; cases hm⟩

theorem no_child_of_fresh (c : Chart) (ht : Tidy c) (n : Name) (hfresh : c.hasState n = false) (x : Name) :
    c.parentFor x ≠ some n := 
  (ht.fresh hfresh).2.2.2.1 x

theorem addedChart_soundRefs_iff (c : Chart) (s : StateDef) (p : Option Name) (ht : Tidy c)
    (hfresh : c.hasState s.name = false) (hp : ∀ par, p = some par → c.hasState par = true)
    (hc : c.SoundRefs) : (addedChart c s p).SoundRefs ↔ s.FitsUnder c p := by
  have fresh : ∀ x q, c.parentFor x = some q → x ≠ s.name := fun x q hx e =>
    (ht.fresh hfresh).2.1 (e ▸ key_of_parentFor c x q hx)
  have hst : (addedChart c s p).states = c.states ++ [s] := rfl
  have hpne : p ≠ some s.name := by
    intro e
    have := hp _ e
    rw [hfresh] at this
    cases this
  constructor
  · intro h
    have hs : s ∈ (addedChart c s p).states := by rw [hst]; simp
    obtain ⟨h1, h2⟩ := h s hs
    simp only [added_parentFor c s p ht hfresh] at h1 h2
    constructor
    · intro hk
      cases hi : s.initial with
      | none => rfl
      | some i =>
        exfalso
        have := h1 hk i hi
        by_cases e : i = s.name
        · simp only [e, if_true] at this
          exact hpne this
        · simp only [e, if_false] at this
          exact no_child_of_fresh c ht s.name hfresh i this
    · intro hk m hm
      obtain ⟨hne, q, hq1, hq2⟩ := h2 hk m hm
      simp only [if_true] at hq1
      simp only [hne, if_false] at hq2
      exact ⟨hne, q, hq1, hq2⟩
  · intro hb s' hs'
    rw [hst, List.mem_append, List.mem_singleton] at hs'
    simp only [added_parentFor c s p ht hfresh]
    rcases hs' with hs' | rfl
    · obtain ⟨h1, h2⟩ := hc s' hs'
      constructor
      · intro hk i hi
        have := h1 hk i hi
        simp only [fresh i _ this, if_false]
        exact this
      · intro hk m hm
        obtain ⟨hne, q, hq1, hq2⟩ := h2 hk m hm
        simp only [fresh _ _ hq1, fresh _ _ hq2, if_false]
        exact ⟨hne, q, hq1, hq2⟩
    · constructor
      · intro hk i hi
        rw [hb.1 hk] at hi
        cases hi
      · intro hk m hm
        obtain ⟨hne, par, hpar, hm'⟩ := hb.2 hk m hm
        refine ⟨hne, par, ?_, ?_⟩
        · simp only [if_true]; exact hpar
        · simp only [hne, if_false]; exact hm'

theorem addState_validate_iff (c : Chart) (s : StateDef) (p : Option Name) (ht : Tidy c) (hv : c.validate = true)
    (h : (c.addState s p).1 = .ok ()) : (c.addState s p).2.validate = true ↔ s.FitsUnder c p := by
  rw [validate_iff _ (addState_tidy c s p ht h)]
  obtain ⟨he, hf, _, hp⟩ := addState_ok c s p h
  rw [he]
  exact addedChart_soundRefs_iff c s p ht hf hp ((validate_iff c ht).1 hv)

/-- the states `add_state` is given fit where they are put (decided against the statechart *at that moment*) -/
def EditOp.Fits (c : Chart) : EditOp → Prop
  | .addState s p => s.FitsUnder c p
  | _ => True

theorem applyEdit_validate_fits (c : Chart) (op : EditOp) (ht : Tidy c) (hv : c.validate = true) (hop : op.Fits c) :
    (c.applyEdit op).2.validate = true :=
  applyEdit_preserves_dicts (P := fun c => c.validate = true) c op (fun _ => hv)
    (fun s p e h => (addState_validate_iff c s p ht hv h).2 (by subst e; exact hop))
    (removeState_validate c · ht hv) (renameState_validate c · · ht hv) (moveState_validate c · · ht hv)

/-- a session every `add_state` of which fits the statechart it is applied to -/
def FitsSession : List EditOp → Chart → Prop
  | [], _ => True
  | op :: ops, c => op.Fits c ∧ FitsSession ops (c.applyEdit op).2

theorem applyEdits_validate_fits : ∀ (ops : List EditOp) (c : Chart), Tidy c → c.validate = true → FitsSession ops c →
    (c.applyEdits ops).validate = true
  | [], _, _, hv, _ => hv
  | op :: ops, c, ht, hv, h =>
    applyEdits_validate_fits ops _ (applyEdit_tidy c op ht) (applyEdit_validate_fits c op ht hv h.1) h.2

/-! ### states that come without `initial` / `memory` always fit -/

theorem fitsSession_of_bare : ∀ (ops : List EditOp) (c : Chart), (∀ op ∈ ops, op.Bare) → FitsSession ops c
  | [], _, _ => trivial
  | op :: ops, c, h => by
    refine ⟨?_, fitsSession_of_bare ops _ (fun o ho => h o (List.mem_cons_of_mem _ ho))⟩
    have hb := h op List.mem_cons_self
    cases op with
    | addState s p => exact StateDef.Bare.fitsUnder hb c p
    | _ => trivial

end Chart
end Sismic
