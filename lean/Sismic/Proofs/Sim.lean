import Sismic.Proofs.Walk2
import Sismic.Proofs.LogFilters
/-!
# Sismic.Proofs.Sim — C09: a run that ignores contracts simulates a run that checks them

Two runs of the same interpreter, one with `ignore_contract = False` in which no condition fails,
one with `ignore_contract = True`.  They are related by `Sim`: everything equal except the
evaluator states, which are related by a user-supplied relation `eqv` (the checking run also stores
frozen contexts for `__old__`), and the effect log of the ignoring run is that of the checking run
without the condition evaluations.

Proved here: the rules of the logic `SimM` and the steps in which the two runs differ; the rest of
`execute_once` is the walk `Walk₂` of `Proofs/Walk2.lean`.
-/
namespace Sismic
open M

variable {σ ω : Type}

/-- the evaluator cannot tell `eqv`-related states apart, except through contract conditions -/
structure Blind (E : Evaluator σ) (eqv : σ → σ → Prop) : Prop where
  guard : ∀ (s : IState σ) (x : σ), eqv s.ctx x → ∀ t ev, E.guard { s with ctx := x } t ev = E.guard s t ev
  exec : ∀ (s : IState σ) (x : σ), eqv s.ctx x → ∀ k ev,
    (E.exec { s with ctx := x } k ev).2 = (E.exec s k ev).2 ∧ eqv (E.exec s k ev).1 (E.exec { s with ctx := x } k ev).1
  freeze : ∀ (a x : σ) (obj : Obj), eqv a x → eqv (E.freeze a obj) x

variable (eqv : σ → σ → Prop)

def Sim (rs₁ rs₂ : RS σ ω) : Prop :=
  ∃ x, rs₂ = { rs₁ with st := { rs₁.st with ctx := x }, eff := rs₁.eff.filter Effect.notCond } ∧ eqv rs₁.st.ctx x

/-- `f₁` checks, `f₂` ignores; one-sided: only a normal return of `f₁` has to be followed -/
def SimM {α : Type} (Rv : α → α → Prop) (f₁ f₂ : M σ ω α) : Prop :=
  ∀ rs₁ rs₂ a₁ rs₁', Sim eqv rs₁ rs₂ → f₁ rs₁ = (.ok a₁, rs₁') →
    ∃ a₂ rs₂', f₂ rs₂ = (.ok a₂, rs₂') ∧ Rv a₁ a₂ ∧ Sim eqv rs₁' rs₂'

def StRel (s₁ s₂ : IState σ) : Prop := ∃ x, s₂ = { s₁ with ctx := x } ∧ eqv s₁.ctx x

theorem SimM.pure {α} (a : α) : SimM eqv Eq (M.pure a : M σ ω α) (M.pure a) := by
  intro rs₁ rs₂ a₁ rs₁' hs h
  rw [pure_ok] at h
  obtain ⟨rfl, rfl⟩ := h
  exact ⟨a, rs₂, rfl, rfl, hs⟩

theorem SimM.bind {α β} {Rv : α → α → Prop} {Rw : β → β → Prop} {f₁ f₂ : M σ ω α} {g₁ g₂ : α → M σ ω β}
    (hf : SimM eqv Rv f₁ f₂) (hg : ∀ a₁ a₂, Rv a₁ a₂ → SimM eqv Rw (g₁ a₁) (g₂ a₂)) :
    SimM eqv Rw (M.bind f₁ g₁) (M.bind f₂ g₂) := by
  intro rs₁ rs₂ b₁ rs₁'' hs h
  obtain ⟨a₁, rs₁', h1, h2⟩ := bind_ok.mp h
  obtain ⟨a₂, rs₂', e1, hr, hs'⟩ := hf rs₁ rs₂ a₁ rs₁' hs h1
  obtain ⟨b₂, rs₂'', e2, hr', hs''⟩ := hg a₁ a₂ hr rs₁' rs₂' b₁ rs₁'' hs' h2
  exact ⟨b₂, rs₂'', bind_ok.mpr ⟨a₂, rs₂', e1, e2⟩, hr', hs''⟩

theorem SimM.bindE {α β} {Rw : β → β → Prop} {f₁ f₂ : M σ ω α} {g₁ g₂ : α → M σ ω β}
    (hf : SimM eqv Eq f₁ f₂) (hg : ∀ a, SimM eqv Rw (g₁ a) (g₂ a)) :
    SimM eqv Rw (M.bind f₁ g₁) (M.bind f₂ g₂) :=
  SimM.bind eqv hf (fun a₁ a₂ e => e ▸ hg a₁)

theorem SimM.get : SimM eqv (StRel eqv) (M.get : M σ ω _) M.get := by
  intro rs₁ rs₂ a₁ rs₁' hs h
  rw [get_ok] at h
  obtain ⟨rfl, rfl⟩ := h
  obtain ⟨x, rfl, hx⟩ := hs
  exact ⟨_, _, rfl, ⟨x, rfl, hx⟩, ⟨x, rfl, hx⟩⟩

theorem SimM.throw {α} {Rv : α → α → Prop} (e : Err) (f₂ : M σ ω α) : SimM eqv Rv (M.throw e) f₂ := by
  intro rs₁ rs₂ a₁ rs₁' _ h
  exact absurd h (by simp [M.throw])

theorem SimM.modify (f₁ f₂ : IState σ → IState σ)
    (hf : ∀ s x, eqv s.ctx x → ∃ y, f₂ { s with ctx := x } = { f₁ s with ctx := y } ∧ eqv (f₁ s).ctx y) :
    SimM eqv Eq (M.modify f₁ : M σ ω Unit) (M.modify f₂) := by
  intro rs₁ rs₂ a₁ rs₁' hs h
  rw [modify_ok] at h
  subst h
  obtain ⟨x, rfl, hx⟩ := hs
  obtain ⟨y, hy, hy'⟩ := hf rs₁.st x hx
  refine ⟨(), _, rfl, rfl, y, ?_, hy'⟩
  simp only [hy]

theorem SimM.emit (e : Effect) (he : e.notCond = true) : SimM eqv Eq (M.emit e : M σ ω Unit) (M.emit e) := by
  intro rs₁ rs₂ a₁ rs₁' hs h
  rw [emit_ok] at h
  subst h
  obtain ⟨x, rfl, hx⟩ := hs
  refine ⟨(), _, rfl, rfl, x, ?_, hx⟩
  simp [List.filter_append, he]

/-- a condition evaluation is logged by the checking run only -/
theorem SimM.emitCond (k : CondKind) (o : ObjId) (i : Nat) (ev : Option Event) (r : Option Bool) :
    SimM eqv Eq (M.emit (.cond k o i ev r) : M σ ω Unit) (M.pure ()) := by
  intro rs₁ rs₂ a₁ rs₁' hs h
  rw [emit_ok] at h
  subst h
  obtain ⟨x, rfl, hx⟩ := hs
  refine ⟨(), _, rfl, rfl, x, ?_, hx⟩
  simp [List.filter_append, Effect.notCond]

variable (env : Env σ ω)

def Env.ignoring (env : Env σ ω) : Env σ ω := { env with ignoreContract := true }

theorem sim_callListener (m : Event) (l : Nat) :
    SimM eqv Eq (callListener env m l) (callListener env.ignoring m l) := by
  intro rs₁ rs₂ a₁ rs₁' hs h
  obtain ⟨x, rfl, hx⟩ := hs
  rw [callListener_eq] at h
  obtain ⟨h1, rfl⟩ := Prod.mk.inj h
  exact ⟨a₁, _, (callListener_eq _ m l _).trans (congrArg (fun r => (r, _)) h1), rfl, x, rfl, hx⟩

/-- evaluating conditions that all hold: the ignoring run does nothing instead -/
theorem sim_evalConds (kind : CondKind) (obj : Obj) (ev : Option Event) (i : Nat) (codes : List Code) :
    SimM eqv Eq (evalConds env kind obj ev i codes) (M.pure ()) := by
  intro rs₁ rs₂ a₁ rs₁' hs h
  have := evalConds_ok env kind obj ev codes i rs₁ rs₁' a₁ h
  subst this
  obtain ⟨x, rfl, hx⟩ := hs
  refine ⟨(), _, rfl, rfl, x, ?_, hx⟩
  simp only [List.filter_append]
  rw [filter_condsLogFrom Effect.notCond (fun _ _ _ _ _ => rfl)]
  simp

theorem sim_evalContract (hE : Blind env.E eqv) (hig : env.ignoreContract = false)
    (kind : CondKind) (obj : Obj) (ev : Option Event) :
    SimM eqv Eq (evalContract env kind obj ev) (evalContract env.ignoring kind obj ev) := by
  unfold evalContract
  simp only [hig, Bool.false_eq_true, if_false, Env.ignoring, if_true]
  have e : (M.pure () : M σ ω Unit) = M.bind (M.pure ()) (fun _ => M.pure ()) := rfl
  rw [e]
  apply SimM.bindE eqv _ (fun _ => sim_evalConds eqv env kind obj ev 0 _)
  split
  · -- the checking run freezes the context for `__old__`
    intro rs₁ rs₂ a₁ rs₁' hs h
    rw [modify_ok] at h
    subst h
    obtain ⟨x, rfl, hx⟩ := hs
    exact ⟨(), _, rfl, rfl, x, rfl, hE.freeze _ _ _ hx⟩
  · exact SimM.pure eqv ()

theorem sim_runCode (hE : Blind env.E eqv) (k : ExecKind) (ev : Option Event) :
    SimM eqv Eq (runCode env k ev) (runCode env.ignoring k ev) := by
  unfold runCode
  apply SimM.bind eqv (SimM.get eqv)
  rintro st₁ st₂ ⟨x, rfl, hx⟩
  obtain ⟨hsent, hctx⟩ := hE.exec st₁ x hx k ev
  simp only [Env.ignoring]
  apply SimM.bindE eqv (f₁ := M.modify (fun st' => { st' with ctx := (env.E.exec st₁ k ev).1 }))
    (f₂ := M.modify (fun st' => { st' with ctx := (env.E.exec { st₁ with ctx := x } k ev).1 }))
  · apply SimM.modify eqv
    intro s y _
    exact ⟨_, rfl, hctx⟩
  · intro _
    rw [hsent]
    split
    · exact SimM.pure eqv _
    · exact SimM.throw eqv _ _

theorem sim_saveMemory (cfg0 : List Name) (s : StateDef) : ∀ rest : List Name,
    SimM eqv Eq (saveMemory env cfg0 s rest) (saveMemory env.ignoring cfg0 s rest)
  | [] => SimM.pure eqv _
  | ch :: rest => by
    unfold saveMemory
    simp only [Env.ignoring]
    split
    · exact SimM.throw eqv _ _
    · exact sim_saveMemory cfg0 s rest
    · exact SimM.bindE eqv (SimM.modify eqv _ _ (fun _ x hx => ⟨x, rfl, hx⟩)) (fun _ => sim_saveMemory cfg0 s rest)

theorem sim_logGuards (hE : Blind env.E eqv) (st₁ : IState σ) (x : σ) (hx : eqv st₁.ctx x) (ev : Option Event) :
    ∀ calls : List (Trans × Bool),
      SimM eqv Eq (logGuards env st₁ ev calls) (logGuards env.ignoring { st₁ with ctx := x } ev calls)
  | [] => SimM.pure eqv _
  | (t, exposed) :: rest => by
    unfold logGuards
    simp only [Env.ignoring, hE.guard st₁ x hx]
    apply SimM.bindE eqv (SimM.emit eqv _ rfl); intro _
    split
    · exact SimM.throw eqv _ _
    · exact sim_logGuards hE st₁ x hx ev rest

theorem simM_walk (hE : Blind env.E eqv) (hig : env.ignoreContract = false) :
    Walk₂ env env.ignoring (StRel eqv) (@SimM σ ω eqv) where
  pure := SimM.pure eqv
  throw e := SimM.throw eqv e _
  bind := SimM.bind eqv
  get := SimM.get eqv
  agree := by rintro s₁ s₂ ⟨x, rfl, _⟩; exact ⟨rfl, rfl, rfl, rfl, rfl, rfl⟩
  modify f hf := SimM.modify eqv f f (fun s x hx => ⟨x, hf.setCtx s x, by rw [hf.ctx]; exact hx⟩)
  emit := SimM.emit eqv
  listener := sim_callListener eqv env
  contract := sim_evalContract eqv env hE hig
  stateFor _ := rfl
  runCode := sim_runCode eqv env hE
  saveMemory cfg0 s := sim_saveMemory eqv env cfg0 s _
  root := rfl
  guards := by
    rintro s₁ s₂ ⟨x, rfl, hx⟩
    show SimM eqv Eq _ (logGuards env.ignoring _ (peekEvent s₁) (selCalls env.chart env.E { s₁ with ctx := x }))
    rw [selCalls_congr _ (funext fun t => funext (hE.guard s₁ x hx t)) rfl rfl]
    exact sim_logGuards eqv env hE s₁ x hx _ _
  plan := by rintro s₁ s₂ ⟨x, rfl, hx⟩; exact planOf_congr _ (funext fun t => funext (hE.guard s₁ x hx t)) rfl rfl
  stab := by rintro s₁ s₂ ⟨x, rfl, _⟩; rfl
  sortConfig _ := rfl
  stabFuel := rfl

theorem sim_executeOnce (hE : Blind env.E eqv) (hig : env.ignoreContract = false) (clock : Int) :
    SimM eqv Eq (executeOnce env clock) (executeOnce env.ignoring clock) :=
  (simM_walk eqv env hE hig).executeOnce clock

end Sismic
