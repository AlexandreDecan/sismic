import Sismic.Spec.WF
import Sismic.Model.Plan
/-!
# Sismic.Proofs.Tree — `ancestors_for` (fuel) ↔ `Anc`; LCA, `last_before_lca`, entered path
-/
namespace Sismic

theorem ancF_sound (c : Chart) : ∀ f s a, a ∈ c.ancF f s → Anc c a s := by
  intro f
  induction f with
  | zero => intro s a h; simp [Chart.ancF] at h
  | succ f ih =>
    intro s a h
    unfold Chart.ancF at h
    split at h
    · next p hp =>
      simp at h
      rcases h with h | h
      · subst h; exact Anc.base hp
      · exact Anc.step hp (ih p a h)
    · simp at h

theorem ancF_complete (c : Chart) (r : Name → Nat)
    (hr : ∀ s p, c.parentFor s = some p → r p < r s) :
    ∀ f s a, Anc c a s → r s < f → a ∈ c.ancF f s := by
  intro f
  induction f with
  | zero => intro s a _ h; omega
  | succ f ih =>
    intro s a h hf
    cases h with
    | base hp => simp [Chart.ancF, hp]
    | step hp h' =>
      rename_i p
      simp only [Chart.ancF, hp, List.mem_cons]
      right
      exact ih p a h' (by have := hr s p hp; omega)

theorem mem_ancestors (c : Chart) (h : TreeOK c) (s a : Name) :
    a ∈ c.ancestors s ↔ Anc c a s := by
  obtain ⟨r, hr, hb⟩ := h.rank
  constructor
  · exact ancF_sound c _ s a
  · intro ha; exact ancF_complete c r hr _ s a ha (hb s)

theorem Anc.trans {c : Chart} {a b s : Name} (h1 : Anc c a b) (h2 : Anc c b s) : Anc c a s := by
  induction h2 with
  | base hp => exact Anc.step hp h1
  | step hp _ ih => exact Anc.step hp ih

theorem Anc.chain {c : Chart} {a b s : Name} (h1 : Anc c a s) (h2 : Anc c b s) :
    a = b ∨ Anc c a b ∨ Anc c b a := by
  induction h1 generalizing b with
  | base hp =>
    cases h2 with
    | base hp' => left; simp_all
    | step hp' h' => right; right; simp_all
  | step hp h ih =>
    cases h2 with
    | base hp' => right; left; simp_all
    | step hp' h' =>
      rw [hp] at hp'
      cases hp'
      exact ih h'


theorem TreeOK.induction {c : Chart} (h : TreeOK c) {P : Name → Prop}
    (step : ∀ s, (∀ p, c.parentFor s = some p → P p) → P s) (s : Name) : P s := by
  obtain ⟨r, hr, _⟩ := h.rank
  suffices ∀ n s, r s < n → P s from this _ s (Nat.lt_succ_self _)
  intro n
  induction n with
  | zero => intro s hs; omega
  | succ n ih => intro s hs; exact step s fun p hp => ih p (by have := hr s p hp; omega)

variable (c : Chart)

theorem ancF_fuel (r : Name → Nat) (hr : ∀ s p, c.parentFor s = some p → r p < r s) :
    ∀ f g s, r s < f → r s < g → c.ancF f s = c.ancF g s := by
  intro f
  induction f with
  | zero => intro g s h; omega
  | succ f ih =>
    intro g s hf hg
    cases g with
    | zero => omega
    | succ g =>
      simp only [Chart.ancF]
      cases hp : c.parentFor s with
      | none => rfl
      | some p => have := hr s p hp; simp only; rw [ih g p (by omega) (by omega)]

theorem ancF_stable' (r : Name → Nat) (hr : ∀ s p, c.parentFor s = some p → r p < r s) :
    ∀ k f s, r s < f → c.ancF f s = c.ancF (f + k) s :=
  fun k f s h => ancF_fuel c r hr f (f + k) s h (by omega)

theorem ancestors_unfold (h : TreeOK c) (s : Name) :
    c.ancestors s = match c.parentFor s with
      | some p => p :: c.ancestors p
      | none => [] := by
  obtain ⟨r, hr, hb⟩ := h.rank
  unfold Chart.ancestors
  cases hn : c.states.length with
  | zero => have := hb s; omega
  | succ n =>
    rw [Chart.ancF]
    cases hp : c.parentFor s with
    | none => rfl
    | some p =>
      have := hr s p hp; have := hb s
      simp only; rw [ancF_fuel c r hr n (n + 1) p (by omega) (by omega)]

theorem Anc.rank_lt' (r : Name → Nat) (hr : ∀ s p, c.parentFor s = some p → r p < r s)
    {a s : Name} (h : Anc c a s) : r a < r s := by
  induction h with
  | base hp => exact hr _ _ hp
  | step hp _ ih => exact Nat.lt_trans ih (hr _ _ hp)

theorem Anc.asymm' (h : TreeOK c) {a b : Name} (h1 : Anc c a b) (h2 : Anc c b a) : False := by
  obtain ⟨r, hr, _⟩ := h.rank
  have := Anc.rank_lt' c r hr h1
  have := Anc.rank_lt' c r hr h2
  omega

theorem Anc.irrefl' (h : TreeOK c) {a : Name} (h1 : Anc c a a) : False :=
  Anc.asymm' c h h1 h1

theorem Anc.parent_cases' {a y p : Name} (h : Anc c a y) (hp : c.parentFor y = some p) :
    a = p ∨ Anc c a p := by
  cases h with
  | base hp' => left; rw [hp] at hp'; exact (Option.some.inj hp').symm
  | step hp' h' => right; rw [hp] at hp'; cases hp'; exact h'

theorem Anc.child_of {c : Chart} {n x : Name} (h : Anc c n x) : ∃ k, c.parentFor k = some n ∧ Sub c k x := by
  induction h with
  | base hp => exact ⟨_, hp, Or.inl rfl⟩
  | step hp _ ih =>
    obtain ⟨k, hk, hs⟩ := ih
    refine ⟨k, hk, Or.inr ?_⟩
    rcases hs with h | h
    · rw [h] at hp; exact Anc.base hp
    · exact Anc.step hp h

/-! ### subtrees -/

theorem sub_of_parent_sub {c : Chart} {x z p : Name} (hp : c.parentFor z = some p) (h : Sub c x p) : Sub c x z :=
  Or.inr (h.elim (fun e => Anc.base (e ▸ hp)) (Anc.step hp))

theorem Sub.trans' {c : Chart} {a b z : Name} (h1 : Sub c a b) (h2 : Sub c b z) : Sub c a z := by
  rcases h1 with e1 | e1 <;> rcases h2 with e2 | e2
  · exact Or.inl (e2.trans e1)
  · rw [e1] at e2; exact Or.inr e2
  · rw [e2]; exact Or.inr e1
  · exact Or.inr (e1.trans e2)

theorem Sub.of_anc_child {c : Chart} {x y p : Name} (h : Anc c x y) (hp : c.parentFor y = some p) : Sub c x p :=
  (Anc.parent_cases' c h hp).imp Eq.symm id

theorem not_sub_parent (hT : TreeOK c) {k p : Name} (hp : c.parentFor k = some p) : ¬ Sub c k p := by
  rintro (e | e)
  · rw [e] at hp; exact Anc.irrefl' c hT (Anc.base hp)
  · exact Anc.asymm' c hT e (Anc.base hp)

theorem siblings_not_anc (hT : TreeOK c) {L A B : Name} (hA : c.parentFor A = some L)
    (hB : c.parentFor B = some L) (hAB : Anc c A B) : False :=
  not_sub_parent c hT hA (Sub.of_anc_child hAB hB)

theorem siblings_disjoint (hT : TreeOK c) {L Ra Rb z : Name} (ha : c.parentFor Ra = some L)
    (hb : c.parentFor Rb = some L) (hne : Ra ≠ Rb) (h1 : Sub c Ra z) (h2 : Sub c Rb z) : False := by
  rcases h1 with e1 | e1 <;> rcases h2 with e2 | e2
  · exact hne (e1.symm.trans e2)
  · rw [e1] at e2; exact siblings_not_anc c hT hb ha e2
  · rw [e2] at e1; exact siblings_not_anc c hT ha hb e1
  · rcases Anc.chain e1 e2 with e | e | e
    · exact hne e
    · exact siblings_not_anc c hT ha hb e
    · exact siblings_not_anc c hT hb ha e

theorem child_on_chain_unique (hT : TreeOK c) {l a b s : Name} (ha : c.parentFor a = some l)
    (hb : c.parentFor b = some l) (h1 : Sub c a s) (h2 : Sub c b s) : a = b :=
  Decidable.byContradiction fun e => siblings_disjoint c hT ha hb e h1 h2

/-! ### LCA, `last_before_lca`, entered path -/

theorem ancestors_split (h : TreeOK c) {x s : Name} (hx : Anc c x s) :
    ∃ pre, c.ancestors s = pre ++ x :: c.ancestors x ∧ ∀ y ∈ pre, Anc c x y := by
  induction hx with
  | @base s hp => exact ⟨[], by rw [ancestors_unfold c h s, hp]; rfl, nofun⟩
  | @step p s hp hxp ih =>
    obtain ⟨pre, e, hpre⟩ := ih
    refine ⟨p :: pre, by rw [ancestors_unfold c h s, hp]; simp only [e, List.cons_append], ?_⟩
    intro y hy
    rcases List.mem_cons.mp hy with rfl | hy
    · exact hxp
    · exact hpre y hy

theorem ancestors_depth_lt (h : TreeOK c) (s a : Name) (ha : a ∈ c.ancestors s) : c.depth a < c.depth s := by
  obtain ⟨pre, e, _⟩ := ancestors_split c h ((mem_ancestors c h s a).mp ha)
  unfold Chart.depth
  rw [e, List.length_append, List.length_cons]
  omega

theorem ancestors_trans (h : TreeOK c) (s a b : Name) (h1 : a ∈ c.ancestors s) (h2 : b ∈ c.ancestors a) :
    b ∈ c.ancestors s :=
  (mem_ancestors c h s b).mpr (((mem_ancestors c h a b).mp h2).trans ((mem_ancestors c h s a).mp h1))

theorem lca_spec (h : TreeOK c) (a b l : Name) (hl : c.lca a b = some l) :
    Anc c l a ∧ Anc c l b ∧ ∀ x, Anc c x a → Anc c x b → (x = l ∨ Anc c x l) := by
  unfold Chart.lca at hl
  simp only at hl
  have hla := (mem_ancestors c h a l).mp (List.mem_of_find?_eq_some hl)
  have hlb : Anc c l b := (mem_ancestors c h b l).mp (by simpa using List.find?_some hl)
  refine ⟨hla, hlb, fun x hxa hxb => ?_⟩
  rcases Anc.chain hxa hla with e | e | e
  · exact Or.inl e
  · exact Or.inr e
  · -- `x` strictly below `l`: the search meets `x`, which passes the test, before it can reach `l`
    exfalso
    obtain ⟨pre, hs, hpre⟩ := ancestors_split c h hxa
    have hq : (c.ancestors b).contains x = true := by simpa using (mem_ancestors c h b x).mpr hxb
    rw [hs, List.find?_append, List.find?_cons_of_pos hq] at hl
    cases hf : pre.find? (fun y => (c.ancestors b).contains y) with
    | some y =>
      rw [hf] at hl; cases hl
      exact Anc.asymm' c h e (hpre l (List.mem_of_find?_eq_some hf))
    | none => rw [hf] at hl; cases hl; exact Anc.irrefl' c h e

theorem lastBeforeGo_cons (l : Name) (cur x : Name) (xs : List Name) :
    lastBeforeGo (some l) cur (x :: xs) = if x = l then cur else lastBeforeGo (some l) x xs := by
  simp only [lastBeforeGo, beq_iff_eq, Option.some.injEq]

theorem lastBefore_sub (h : TreeOK c) {s l : Name} (hl : Anc c l s) :
    c.parentFor (lastBefore c s (some l)) = some l ∧ Sub c (lastBefore c s (some l)) s := by
  unfold lastBefore
  induction hl with
  | @base s hp => rw [ancestors_unfold c h s, hp, lastBeforeGo_cons, if_pos rfl]; exact ⟨hp, Or.inl rfl⟩
  | @step p s hp hlp ih =>
    have hne : p ≠ l := fun e => Anc.irrefl' c h (e ▸ hlp)
    rw [ancestors_unfold c h s, hp, lastBeforeGo_cons, if_neg hne]
    exact ⟨ih.1, sub_of_parent_sub hp ih.2⟩

theorem lastBefore_spec (h : TreeOK c) (s l : Name) (hl : Anc c l s) :
    c.parentFor (lastBefore c s (some l)) = some l ∧
      (lastBefore c s (some l) = s ∨ Anc c (lastBefore c s (some l)) s) :=
  (lastBefore_sub c h hl).imp_right (Or.imp_left Eq.symm)

/-- states entered by an external transition: ancestors of the target strictly below the LCA,
    outermost first, then the target -/
def enteredPath (c : Chart) (t l : Name) : List Name :=
  ((c.ancestors t).takeWhile (fun x => some x != some l)).reverse ++ [t]

theorem takeWhile_anc (h : TreeOK c) (l : Name) {t : Name} (hl : Anc c l t) (z : Name) :
    z ∈ (c.ancestors t).takeWhile (fun x => some x != some l) ↔ (Anc c z t ∧ Anc c l z) := by
  induction hl with
  | @base s hp =>
    rw [ancestors_unfold c h s, hp]
    simp only [List.takeWhile_cons, bne_self_eq_false, Bool.false_eq_true, if_false, List.not_mem_nil, false_iff]
    rintro ⟨hz, hlz⟩
    rcases hz.parent_cases' c hp with e | e
    · exact Anc.irrefl' c h (e ▸ hlz)
    · exact Anc.asymm' c h hlz e
  | @step p s hp hlp ih =>
    have hne : (some p != some l) = true := by
      simp only [bne_iff_ne, ne_eq, Option.some.injEq]; exact fun e => Anc.irrefl' c h (e ▸ hlp)
    rw [ancestors_unfold c h s, hp]
    simp only [List.takeWhile_cons, hne, if_true, List.mem_cons, ih]
    constructor
    · rintro (e | ⟨h1, h2⟩)
      · exact e ▸ ⟨Anc.base hp, hlp⟩
      · exact ⟨Anc.step hp h1, h2⟩
    · rintro ⟨h1, h2⟩
      exact (h1.parent_cases' c hp).imp id (fun e => ⟨e, h2⟩)

theorem mem_enteredPath (h : TreeOK c) (t l : Name) (hl : Anc c l t) (z : Name) :
    z ∈ enteredPath c t l ↔ ((z = t ∨ Anc c z t) ∧ Anc c l z) := by
  unfold enteredPath
  simp only [List.mem_append, List.mem_reverse, List.mem_singleton]
  rw [takeWhile_anc c h l hl z]
  constructor
  · rintro (⟨h1, h2⟩ | e)
    · exact ⟨Or.inr h1, h2⟩
    · rw [e]; exact ⟨Or.inl rfl, hl⟩
  · rintro ⟨e | h1, h2⟩
    · right; exact e
    · left; exact ⟨h1, h2⟩

theorem mem_enteredPath_sub (h : TreeOK c) {t l : Name} (hl : Anc c l t) (z : Name) :
    z ∈ enteredPath c t l ↔ (Sub c z t ∧ Anc c l z) := by
  rw [mem_enteredPath c h t l hl z, Sub, eq_comm]

end Sismic

namespace Sismic

/-! ### a decidable certificate for `TreeOK` (used for concrete charts) -/

theorem parentFor_mem (c : Chart) (s p : Name) (h : c.parentFor s = some p) : (s, some p) ∈ c.parent := by
  unfold Chart.parentFor at h
  split at h
  · next q heq =>
    have hm := List.mem_of_find?_eq_some heq
    have hs := List.find?_some heq
    simp only [beq_iff_eq] at hs
    subst h; rw [← hs]; exact hm
  · cases h

def rankOf (tbl : List (Name × Nat)) (s : Name) : Nat :=
  match tbl.find? (fun e => e.1 == s) with
  | some e => e.2
  | none => 0

def treeCheck (c : Chart) (tbl : List (Name × Nat)) : Bool :=
  c.parent.all (fun e => match e.2 with
    | some p => decide (rankOf tbl p < rankOf tbl e.1)
    | none => true) &&
  tbl.all (fun e => decide (e.2 < c.states.length)) && decide (0 < c.states.length)

theorem treeOK_of_check (c : Chart) (tbl : List (Name × Nat)) (h : treeCheck c tbl = true) :
    TreeOK c := by
  unfold treeCheck at h
  simp only [Bool.and_eq_true, List.all_eq_true, decide_eq_true_eq] at h
  obtain ⟨⟨h1, h2⟩, h3⟩ := h
  refine ⟨⟨rankOf tbl, ?_, ?_⟩⟩
  · intro s p hp
    have := h1 _ (parentFor_mem c s p hp)
    simp only [decide_eq_true_eq] at this
    exact this
  · intro s
    unfold rankOf
    split
    · next e heq =>
      have := h2 e (List.mem_of_find?_eq_some heq)
      exact this
    · exact h3

theorem lca_symm (c : Chart) (hT : TreeOK c) (a b : Name) : c.lca a b = c.lca b a := by
  -- a common ancestor found from one side is found from the other
  have hnone : ∀ a b, c.lca a b = none → c.lca b a = none := by
    intro a b h1
    cases h2 : c.lca b a with
    | none => rfl
    | some l' =>
      obtain ⟨hb, ha, _⟩ := lca_spec c hT b a l' h2
      simp only [Chart.lca] at h1
      have := List.find?_eq_none.mp h1 l' ((mem_ancestors c hT a l').mpr ha)
      simp [(mem_ancestors c hT b l').mpr hb] at this
  cases h1 : c.lca a b with
  | none => exact (hnone a b h1).symm
  | some l =>
    cases h2 : c.lca b a with
    | none => rw [hnone b a h2] at h1; cases h1
    | some l' =>
      -- both are deepest common ancestors
      obtain ⟨ha, hb, hmax⟩ := lca_spec c hT a b l h1
      obtain ⟨hb', ha', hmax'⟩ := lca_spec c hT b a l' h2
      rcases hmax l' ha' hb' with e | e
      · rw [e]
      · rcases hmax' l hb ha with e' | e'
        · rw [e']
        · exact (Anc.asymm' c hT e e').elim

theorem ancestors_congr {c c' : Chart} (hp : ∀ n, c'.parentFor n = c.parentFor n)
    (hl : c'.states.length = c.states.length) (s : Name) : c'.ancestors s = c.ancestors s := by
  have : ∀ (f : Nat) (s : Name), c'.ancF f s = c.ancF f s := by
    intro f
    induction f with
    | zero => intro s; rfl
    | succ f ih => intro s; simp only [Chart.ancF, hp, ih]
  simp only [Chart.ancestors, this, hl]

end Sismic
