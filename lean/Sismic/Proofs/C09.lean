import Sismic.Proofs.ErrSpec
import Sismic.Proofs.LogFilters
/-!
# Sismic.Proofs.C09 — with `ignore_contract=True` no condition is evaluated, no ContractError raised
-/
namespace Sismic
open M

variable {σ ω : Type} (env : Env σ ω)

/-- the log grows by entries none of which is a contract evaluation -/
def RNC (rs rs' : RS σ ω) : Prop :=
  ∃ l, rs'.eff = rs.eff ++ l ∧ ∀ e ∈ l, e.isCond = false

theorem RNC_pre : PreOrd (RNC : RS σ ω → RS σ ω → Prop) where
  refl a := ⟨[], by simp, by simp⟩
  trans a b c h1 h2 := by
    obtain ⟨l1, e1, n1⟩ := h1
    obtain ⟨l2, e2, n2⟩ := h2
    refine ⟨l1 ++ l2, by rw [e2, e1, List.append_assoc], ?_⟩
    intro e he
    rcases List.mem_append.mp he with h | h
    · exact n1 e h
    · exact n2 e h

theorem rnc_respects (hi : env.ignoreContract = true) : Respects env (RNC : RS σ ω → RS σ ω → Prop) where
  pre := RNC_pre
  modify f _ := fun rs => ⟨[], by simp [M.modify], by simp⟩
  emit e he := fun rs => ⟨[e], rfl, by
    intro x hx
    simp only [List.mem_singleton] at hx
    subst hx
    cases x <;> simp [Effect.isPlain] at he <;> rfl⟩
  raise m := fun rs => ⟨[.metaEv m], raiseMeta_eff env m rs, by simp⟩
  contract kind obj ev := by
    intro rs
    unfold evalContract
    simp only [hi, if_true]
    exact RNC_pre.refl _

/-- **No evaluation at all**: whatever the outcome, an interpreter that ignores contracts logs no
    contract evaluation during `execute_once`. -/
theorem ignored_no_evaluation (hi : env.ignoreContract = true) (clock : Int) (rs : RS σ ω) :
    ∃ l, (executeOnce env clock rs).2.eff = rs.eff ++ l ∧ ∀ e ∈ l, e.isCond = false :=
  rel_executeOnce (rnc_respects env hi).toQ clock rs

def NotContractErr (e : Err) (_ : RS σ ω) : Prop :=
  match e with
  | .precondition _ _ | .postcondition _ _ | .invariant _ _ => False
  | _ => True

theorem notContract_raises (hi : env.ignoreContract = true) (hd : ListenerErrs env) :
    Raises env (NotContractErr : Err → RS σ ω → Prop) :=
  raises_of_class env hd _
    (fun e he _ => by cases e <;> simp [Err.plain] at he <;> trivial)
    (fun e he _ => by cases e <;> simp [Err.fromListener] at he <;> trivial)
    fun kind obj ev => ⟨fun rs e rs' h => by
      unfold evalContract at h
      simp [hi, M.pure] at h⟩

/-- **No ContractError**: an interpreter that ignores contracts never raises one. -/
theorem ignored_no_contract_error (hi : env.ignoreContract = true) (hd : ListenerErrs env)
    (clock : Int) (rs rs' : RS σ ω) (e : Err) (h : executeOnce env clock rs = (.error e, rs')) :
    NotContractErr e rs' :=
  (es_executeOnce (notContract_raises env hi hd) (fun _ => trivial) (fun _ => trivial) clock).spec rs e rs' h

end Sismic
