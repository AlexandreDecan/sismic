import Sismic.Proofs.Sort
import Sismic.Proofs.Lists
import Sismic.Spec.Run
/-!
# Sismic.Proofs.C06 — history memory: what exits record, what nothing else touches
-/
namespace Sismic

/-- the memory entry of history state `h` -/
def memGet (mem : List (Name × List Name)) (h : Name) : Option (Name × List Name) :=
  mem.find? (fun p => p.1 == h)

theorem leafStep_eq (c : Chart) (mem : List (Name × List Name)) {leaf : Name} {sd : StateDef}
    (hsd : c.stateFor leaf = some sd) : leafStep c mem leaf =
      match sd.kind with
      | .final => if c.parentFor leaf == c.root then some { exited := leaf :: c.root.toList } else none
      | .shallow | .deep =>
        some { entered := isort c.leDepthName (match mem.find? (fun p => p.1 == leaf) with
                 | some (_, l) => l
                 | none => sd.memory.toList),
               exited := [leaf] }
      | .orthogonal => if !(c.childrenFor leaf).isEmpty then some { entered := isort leName (c.childrenFor leaf) }
                       else none
      | .compound => if sd.initial.isSome then some { entered := sd.initial.toList } else none
      | .basic => none := by
  unfold leafStep
  rw [hsd]
  dsimp only
  cases sd.kind <;> rfl

theorem memGet_assocSet_same (h : Name) (a : List Name) (mem : List (Name × List Name)) :
    memGet (assocSet h a mem) h = some (h, a) := by
  unfold memGet; rw [find?_assocSet, beq_self_eq_true]; rfl

theorem memGet_assocSet_other (k h : Name) (a : List Name) (hne : k ≠ h) (mem : List (Name × List Name)) :
    memGet (assocSet k a mem) h = memGet mem h := by
  unfold memGet; rw [find?_assocSet, beq_false_of_ne hne]; rfl

theorem saveMem_other (c : Chart) (cfg0 : List Name) (s : StateDef) (h : Name) :
    ∀ (rest : List Name) (mem : List (Name × List Name)), h ∉ rest →
      memGet (saveMem c cfg0 s mem rest) h = memGet mem h
  | [], mem, _ => rfl
  | ch :: rest, mem, hn => by
    have hne : ch ≠ h := fun e => hn (e ▸ List.mem_cons_self)
    have hr : h ∉ rest := fun e => hn (List.mem_cons_of_mem _ e)
    simp only [saveMem]
    split
    · rw [saveMem_other c cfg0 s h rest _ hr, memGet_assocSet_other ch h _ hne]
    · exact saveMem_other c cfg0 s h rest _ hr

theorem saveMem_hit (c : Chart) (cfg0 : List Name) (s : StateDef) (h : Name) (a : List Name)
    (hm : memoryOf c cfg0 s h = .ok (some a)) :
    ∀ (rest : List Name) (mem : List (Name × List Name)), h ∈ rest →
      memGet (saveMem c cfg0 s mem rest) h = some (h, a)
  | [], _, hin => absurd hin (by simp)
  | ch :: rest, mem, hin => by
    by_cases hr : h ∈ rest
    · simp only [saveMem]
      split
      · exact saveMem_hit c cfg0 s h a hm rest _ hr
      · exact saveMem_hit c cfg0 s h a hm rest _ hr
    · have hch : ch = h := by
        rcases List.mem_cons.mp hin with e | e
        · exact e.symm
        · exact absurd e hr
      subst hch
      simp only [saveMem, hm]
      rw [saveMem_other c cfg0 s ch rest _ hr, memGet_assocSet_same]

theorem exitPure_other (c : Chart) (cfg0 : List Name) (cm : List Name × List (Name × List Name)) (n h : Name)
    (hn : h ∉ c.childrenFor n) : memGet (exitPure c cfg0 cm n).2 h = memGet cm.2 h := by
  simp only [exitPure]
  split
  · exact saveMem_other c cfg0 _ h _ _ hn
  · rfl

theorem foldl_exitPure_other (c : Chart) (cfg0 : List Name) (h : Name) :
    ∀ (ex : List Name) (cm : List Name × List (Name × List Name)), (∀ n ∈ ex, h ∉ c.childrenFor n) →
      memGet (ex.foldl (exitPure c cfg0) cm).2 h = memGet cm.2 h
  | [], _, _ => rfl
  | n :: ex, cm, hall => by
    simp only [List.foldl_cons]
    rw [foldl_exitPure_other c cfg0 h ex _ (fun m hm => hall m (List.mem_cons_of_mem _ hm)),
      exitPure_other c cfg0 cm n h (hall n List.mem_cons_self)]

theorem saveMem_miss (c : Chart) (cfg0 : List Name) (s : StateDef) (k : Name)
    (hk : ∀ a, memoryOf c cfg0 s k ≠ .ok (some a)) :
    ∀ (rest : List Name) (mem : List (Name × List Name)),
      memGet (saveMem c cfg0 s mem rest) k = memGet mem k
  | [], _ => rfl
  | ch :: rest, mem => by
    simp only [saveMem]
    split
    · next a ha =>
      have hne : ch ≠ k := fun e => hk a (e ▸ ha)
      rw [saveMem_miss c cfg0 s k hk rest _, memGet_assocSet_other ch k a hne]
    · exact saveMem_miss c cfg0 s k hk rest mem

end Sismic
