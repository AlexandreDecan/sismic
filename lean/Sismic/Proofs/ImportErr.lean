import Sismic.Proofs.Import
/-!
# Sismic.Proofs.ImportErr — after schema validation `import_from_dict` raises nothing but `StatechartError`
-/
namespace Sismic

/-! ### what a dict schema guarantees of its output -/

theorem foldl_vDictStep_none (spec : List (String × Bool × (Data → V Data))) :
    ∀ m : List (String × Data), m.foldl (vDictStep spec) none = none
  | [] => rfl
  | _ :: m => by simp only [List.foldl_cons, vDictStep, Option.bind]; exact foldl_vDictStep_none spec m

def FromSpec (spec : List (String × Bool × (Data → V Data))) (k : String) (v : Data) : Prop :=
  ∃ e, spec.find? (fun s => s.1 == k) = some e ∧ ∃ v0, e.2.2 v0 = some v

theorem get_append_single (acc : List (String × Data)) (k' : String) (v' : Data) (k : String) (v : Data)
    (h : (Data.map (acc ++ [(k', v')])).get? k = some v) :
    (Data.map acc).get? k = some v ∨ (k' = k ∧ v' = v) := by
  rw [get_append] at h
  cases hf : (Data.map acc).get? k with
  | some x => rw [hf] at h; exact .inl h
  | none =>
    rw [hf, Option.none_or] at h
    by_cases hk : k' = k
    · subst hk; rw [get_single_same] at h; exact .inr ⟨rfl, Option.some.inj h⟩
    · rw [get_single_ne _ _ _ hk] at h; cases h

theorem foldl_vDictStep_get (spec : List (String × Bool × (Data → V Data))) :
    ∀ (m acc l : List (String × Data)), m.foldl (vDictStep spec) (some acc) = some l →
      ∀ k v, (Data.map l).get? k = some v → (Data.map acc).get? k = some v ∨ FromSpec spec k v
  | [], acc, l, h, k, v, hg => by
    simp only [List.foldl_nil, Option.some.injEq] at h; subst h; exact Or.inl hg
  | p :: m, acc, l, h, k, v, hg => by
    simp only [List.foldl_cons] at h
    cases hs : spec.find? (fun s => s.1 == p.1) with
    | none =>
      have : vDictStep spec (some acc) p = none := by simp [vDictStep, Option.bind, hs]
      rw [this, foldl_vDictStep_none] at h; exact absurd h (by simp)
    | some e =>
      obtain ⟨ek, eo, evs⟩ := e
      cases hv : evs p.2 with
      | none =>
        have : vDictStep spec (some acc) p = none := by simp [vDictStep, Option.bind, hs, hv]
        rw [this, foldl_vDictStep_none] at h; exact absurd h (by simp)
      | some v' =>
        have : vDictStep spec (some acc) p = some (acc ++ [(p.1, v')]) := by
          simp [vDictStep, Option.bind, hs, hv]
        rw [this] at h
        rcases foldl_vDictStep_get spec m _ l h k v hg with h1 | h1
        · rcases get_append_single acc p.1 v' k v h1 with h2 | ⟨rfl, rfl⟩
          · exact Or.inl h2
          · exact Or.inr ⟨(ek, eo, evs), hs, p.2, hv⟩
        · exact Or.inr h1

theorem vDict_spec (spec : List (String × Bool × (Data → V Data))) (d d' : Data) (h : vDict spec d = some d') :
    ∃ l, d' = .map l ∧ (∀ k v, d'.get? k = some v → FromSpec spec k v) ∧
      (∀ e ∈ spec, e.2.1 = false → ∃ v, d'.get? e.1 = some v) := by
  unfold vDict at h
  split at h
  next m =>
    split at h
    · exact absurd h (by simp)
    next l hl =>
      split at h
      next hall =>
        simp only [Option.some.injEq] at h
        subst h
        refine ⟨l, rfl, ?_, ?_⟩
        · intro k v hg
          rcases foldl_vDictStep_get spec m [] l hl k v hg with h1 | h1
          · simp [Data.get?] at h1
          · exact h1
        · intro e he hreq
          have := List.all_eq_true.mp hall e he
          simp only [hreq, Bool.false_or, List.any_eq_true] at this
          obtain ⟨p, hp, hk⟩ := this
          simp only [Data.get?]
          cases hf : l.find? (fun q => q.1 == e.1) with
          | none => exact absurd (List.find?_eq_none.mp hf p hp) (by simpa using hk)
          | some q => exact ⟨q.2, rfl⟩
      · exact absurd h (by simp)
  · exact absurd h (by simp)

theorem vUseStr_str (d v : Data) (h : vUseStr d = some v) : ∃ s, v = .str s := by
  simp only [vUseStr, Option.map_eq_some_iff] at h
  obtain ⟨s, _, rfl⟩ := h
  exact ⟨s, rfl⟩

theorem mapM_option {α β} (f : α → Option β) : ∀ (l : List α) (l' : List β), l.mapM f = some l' →
    ∀ y ∈ l', ∃ x, f x = some y
  | [], l', h, y, hy => by simp at h; subst h; simp at hy
  | x :: xs, l', h, y, hy => by
    simp only [List.mapM_cons, bind, Option.bind] at h
    cases hx : f x with
    | none => rw [hx] at h; simp at h
    | some b =>
      rw [hx] at h
      simp only at h
      cases hxs : xs.mapM f with
      | none => rw [hxs] at h; simp at h
      | some bs =>
        rw [hxs] at h
        simp only [pure, Option.some.injEq] at h
        subst h
        rcases List.mem_cons.mp hy with rfl | hy
        · exact ⟨x, hx⟩
        · exact mapM_option f xs bs hxs y hy

theorem vList_spec (vs : Data → V Data) (d v : Data) (h : vList vs d = some v) :
    ∃ l', v = .list l' ∧ ∀ y ∈ l', ∃ x, vs x = some y := by
  unfold vList at h
  split at h
  next l =>
    simp only [Option.map_eq_some_iff] at h
    obtain ⟨l', hl, rfl⟩ := h
    exact ⟨l', rfl, mapM_option vs l l' hl⟩
  · exact absurd h (by simp)

end Sismic

namespace Sismic

/-! ### what a validated state holds -/

/-- an output of `SCHEMA.contract`: a dict all of whose values are strings (`Use(str)`) -/
def ContractOK (c : Data) : Prop := ∃ m, c = .map m ∧ ∀ q ∈ m, ∃ s, q.2 = .str s

theorem vContract_ok (d v : Data) (h : vContract d = some v) : ContractOK v := by
  unfold vContract at h
  split at h
  next m =>
    split at h
    · exact absurd h (by simp)
    · simp only [Option.map_eq_some_iff] at h
      obtain ⟨l', hl, rfl⟩ := h
      refine ⟨l', rfl, ?_⟩
      intro q hq
      obtain ⟨p, hp⟩ := mapM_option _ m l' hl q hq
      split at hp
      · simp only [Option.map_eq_some_iff] at hp
        obtain ⟨v', hv', rfl⟩ := hp
        exact vUseStr_str _ _ hv'
      · exact absurd hp (by simp)
  · exact absurd h (by simp)

/-- an output of `SCHEMA.state`: a dict with a string `name`; where present, the code and name entries
    are strings and `transitions`, `contract`, `states`, `parallel states` are lists (of validated
    contracts / states of nesting depth `f`) — what the unguarded accesses of `import_from_dict` rely on -/
structure StateOK (f : Nat) (d : Data) : Prop where
  isMap : ∃ l, d = .map l
  name : ∃ s, d.get? "name" = some (.str s)
  onEntry : ∀ v, d.get? "on entry" = some v → ∃ s, v = .str s
  onExit : ∀ v, d.get? "on exit" = some v → ∃ s, v = .str s
  initial : ∀ v, d.get? "initial" = some v → ∃ s, v = .str s
  memory : ∀ v, d.get? "memory" = some v → ∃ s, v = .str s
  transitions : ∀ v, d.get? "transitions" = some v → ∃ l, v = .list l
  contract : ∀ v, d.get? "contract" = some v → ∃ l, v = .list l ∧ ∀ c ∈ l, ContractOK c
  states : ∀ v, d.get? "states" = some v → ∃ l, v = .list l ∧ ∀ s ∈ l, ∃ s0, vState f s0 = some s
  parallel : ∀ v, d.get? "parallel states" = some v → ∃ l, v = .list l ∧ ∀ s ∈ l, ∃ s0, vState f s0 = some s

theorem vState_ok (f : Nat) (d0 d : Data) (h : vState (f+1) d0 = some d) : StateOK f d := by
  unfold vState at h
  obtain ⟨l, rfl, hfrom, hreq⟩ := vDict_spec _ _ _ h
  have str : ∀ k v, (Data.map l).get? k = some v →
      (k = "name" ∨ k = "on entry" ∨ k = "on exit" ∨ k = "initial" ∨ k = "memory") → ∃ s, v = .str s := by
    intro k v hg hk
    obtain ⟨e, he, v0, hv⟩ := hfrom k v hg
    rcases hk with rfl | rfl | rfl | rfl | rfl <;>
      (simp [List.find?] at he; subst he; exact vUseStr_str _ _ hv)
  refine ⟨⟨l, rfl⟩, ?_, fun v hg => str _ v hg (by simp), fun v hg => str _ v hg (by simp),
    fun v hg => str _ v hg (by simp), fun v hg => str _ v hg (by simp), ?_, ?_, ?_, ?_⟩
  · obtain ⟨v, hv⟩ := hreq ("name", false, vUseStr) (by simp) rfl
    obtain ⟨s, rfl⟩ := str "name" v hv (by simp)
    exact ⟨s, hv⟩
  · intro v hg
    obtain ⟨e, he, v0, hv⟩ := hfrom _ v hg
    simp [List.find?] at he; subst he
    obtain ⟨l', rfl, _⟩ := vList_spec _ _ _ hv
    exact ⟨l', rfl⟩
  · intro v hg
    obtain ⟨e, he, v0, hv⟩ := hfrom _ v hg
    simp [List.find?] at he; subst he
    obtain ⟨l', rfl, hall⟩ := vList_spec _ _ _ hv
    refine ⟨l', rfl, ?_⟩
    intro c hc
    obtain ⟨x, hx⟩ := hall c hc
    exact vContract_ok _ _ hx
  · intro v hg
    obtain ⟨e, he, v0, hv⟩ := hfrom _ v hg
    simp [List.find?] at he; subst he
    exact vList_spec _ _ _ hv
  · intro v hg
    obtain ⟨e, he, v0, hv⟩ := hfrom _ v hg
    simp [List.find?] at he; subst he
    exact vList_spec _ _ _ hv

end Sismic

namespace Sismic

/-! ### `_import_state_from_dict` on a validated state -/

theorem stripField_ok (d : Data) (k : String) (h : ∀ v, d.get? k = some v → ∃ s, v = .str s) :
    ∃ r, stripField d k = .ok r := by
  unfold stripField getStripped
  cases hg : d.get? k with
  | none => exact ⟨none, rfl⟩
  | some v =>
    obtain ⟨s, rfl⟩ := h v hg
    by_cases ht : (Data.str s).truthy = true
    · exact ⟨some (mkCode (pyStrip s)), by simp [ht]⟩
    · exact ⟨none, by simp [ht]⟩

theorem optNameAt_ok (d : Data) (k : String) (h : ∀ v, d.get? k = some v → ∃ s, v = .str s) :
    ∃ r, optNameAt d k = .ok r := by
  unfold optNameAt
  cases hg : d.get? k with
  | none => exact ⟨none, rfl⟩
  | some v =>
    obtain ⟨s, rfl⟩ := h v hg
    exact ⟨some s, rfl⟩

theorem contractPick_ok (c : Data) (k : String) (h : ContractOK c) : ∃ r, contractPick c k = .ok r := by
  obtain ⟨m, rfl, hm⟩ := h
  unfold contractPick
  cases hg : (Data.map m).get? k with
  | none => exact ⟨none, rfl⟩
  | some v =>
    simp only [Data.get?, Option.map_eq_some_iff] at hg
    obtain ⟨q, hq, rfl⟩ := hg
    obtain ⟨s, hs⟩ := hm q (List.mem_of_find?_eq_some hq)
    rw [hs]
    simp only
    split <;> exact ⟨_, rfl⟩

theorem contractStep_ok (acc : List Code × List Code × List Code) (c : Data) (h : ContractOK c) :
    ∃ r, contractStep acc c = .ok r := by
  obtain ⟨r1, h1⟩ := contractPick_ok c "before" h
  obtain ⟨r2, h2⟩ := contractPick_ok c "after" h
  obtain ⟨r3, h3⟩ := contractPick_ok c "always" h
  obtain ⟨m, rfl, _⟩ := h
  unfold contractStep
  simp only [h1, h2, h3]
  cases r1 <;> cases r2 <;> cases r3 <;> exact ⟨_, rfl⟩

theorem contractLoop_ok : ∀ (l : List Data) (acc : List Code × List Code × List Code),
    (∀ c ∈ l, ContractOK c) → ∃ r, contractLoop l acc = .ok r
  | [], acc, _ => ⟨acc, rfl⟩
  | c :: cs, acc, h => by
    obtain ⟨a, ha⟩ := contractStep_ok acc c (h c List.mem_cons_self)
    simp only [contractLoop, ha]
    exact contractLoop_ok cs a (fun x hx => h x (List.mem_cons_of_mem _ hx))

theorem importContract_ok (d : Data)
    (h : ∀ v, d.get? "contract" = some v → ∃ l, v = .list l ∧ ∀ c ∈ l, ContractOK c) :
    ∃ r, importContract d = .ok r := by
  unfold importContract
  cases hg : d.get? "contract" with
  | none => exact ⟨_, rfl⟩
  | some v =>
    obtain ⟨l, rfl, hl⟩ := h v hg
    exact contractLoop_ok l _ hl

theorem importKind_tail (d : Data) (name : Name) (a b : Option Code) (ri : Option Name) :
    ∃ st, (if (presentAt d "states" && !truthyAt d "parallel states") = true then
        (Except.ok { name := name, kind := .compound, onEntry := a, onExit := b, initial := ri } : Except IOErr StateDef)
      else if presentAt d "parallel states" = true then
        .ok { name := name, kind := .orthogonal, onEntry := a, onExit := b }
      else .ok { name := name, kind := .basic, onEntry := a, onExit := b }) = .ok st ∧ st.name = name ∧
      (st.kind = .compound → presentAt d "states" = true) ∧
      (st.kind = .orthogonal → presentAt d "parallel states" = true) := by
  by_cases h1 : (presentAt d "states" && !truthyAt d "parallel states") = true
  · rw [if_pos h1]
    exact ⟨_, rfl, rfl, fun _ => (Bool.and_eq_true _ _ |>.mp h1).1, (nomatch ·)⟩
  · rw [if_neg h1]
    by_cases h2 : presentAt d "parallel states" = true
    · rw [if_pos h2]; exact ⟨_, rfl, rfl, (nomatch ·), fun _ => h2⟩
    · rw [if_neg h2]; exact ⟨_, rfl, rfl, (nomatch ·), (nomatch ·)⟩

theorem importKind_spec (d : Data) (name : Name) (a b : Option Code)
    (hi : ∀ v, d.get? "initial" = some v → ∃ s, v = .str s)
    (hm : ∀ v, d.get? "memory" = some v → ∃ s, v = .str s) :
    importKind d name a b = .error .statechart ∨
    ∃ st, importKind d name a b = .ok st ∧ st.name = name ∧
      (st.kind = .compound → presentAt d "states" = true) ∧
      (st.kind = .orthogonal → presentAt d "parallel states" = true) := by
  obtain ⟨ri, hri⟩ := optNameAt_ok d "initial" hi
  obtain ⟨rm, hrm⟩ := optNameAt_ok d "memory" hm
  unfold importKind
  simp only [hri, hrm]
  split
  · exact Or.inr ⟨_, rfl, rfl, by simp, by simp⟩
  · exact Or.inr ⟨_, rfl, rfl, by simp, by simp⟩
  · exact Or.inr ⟨_, rfl, rfl, by simp, by simp⟩
  · exact Or.inr (importKind_tail d name a b ri)
  · exact Or.inr (importKind_tail d name a b ri)
  · exact Or.inl rfl

theorem importState_spec (f : Nat) (d : Data) (h : StateOK f d) :
    importState d = .error .statechart ∨
    ∃ st, importState d = .ok st ∧
      (st.kind = .compound → presentAt d "states" = true) ∧
      (st.kind = .orthogonal → presentAt d "parallel states" = true) := by
  obtain ⟨l, rfl⟩ := h.isMap
  obtain ⟨name, hn⟩ := h.name
  obtain ⟨r1, h1⟩ := stripField_ok _ "on entry" h.onEntry
  obtain ⟨r2, h2⟩ := stripField_ok _ "on exit" h.onExit
  obtain ⟨r3, h3⟩ := importContract_ok _ h.contract
  unfold importState
  simp only [hn, h1, h2]
  split
  · first | exact Or.inl rfl | exact Or.inl trivial
  · rcases importKind_spec (.map l) name r1 r2 h.initial h.memory with hk | ⟨st, hk, _, hc, ho⟩
    · simp only [hk]; first | exact Or.inl rfl | exact Or.inl trivial
    · simp only [hk, h3]
      exact Or.inr ⟨_, rfl, hc, ho⟩

end Sismic

namespace Sismic

/-! ### the work list terminates within its fuel and raises nothing else -/

theorem nodes_pos (d : Data) : 1 ≤ d.nodes := by
  cases d <;> simp [Data.nodes] <;> omega

theorem nodes_get (m : List (String × Data)) (k : String) (v : Data)
    (h : (Data.map m).get? k = some v) : v.nodes ≤ nodesMap m := by
  simp only [Data.get?, Option.map_eq_some_iff] at h
  obtain ⟨q, hq, rfl⟩ := h
  have hmem := List.mem_of_find?_eq_some hq
  clear hq
  induction m with
  | nil => simp at hmem
  | cons p ps ih =>
    obtain ⟨pk, pv⟩ := p
    simp only [nodesMap]
    rcases List.mem_cons.mp hmem with h1 | hm
    · rw [h1]; simp only; omega
    · have := ih hm; omega

theorem nodesList_append (a b : List Data) : nodesList (a ++ b) = nodesList a + nodesList b := by
  induction a with
  | nil => simp [nodesList]
  | cons x xs ih => simp only [List.cons_append, nodesList, ih]; omega

def todoSize (todo : List (Data × Option Name)) : Nat := nodesList (todo.map (·.1))

theorem todoSize_append (a b : List (Data × Option Name)) : todoSize (a ++ b) = todoSize a + todoSize b := by
  simp [todoSize, nodesList_append]

theorem todoSize_subs (subs : List Data) (n : Option Name) : todoSize (subs.map (fun s => (s, n))) = nodesList subs := by
  simp [todoSize, Function.comp_def]

theorem importSubs_spec (f : Nat) (m : List (String × Data)) (st : StateDef) (h : StateOK f (.map m))
    (hc : st.kind = .compound → presentAt (.map m) "states" = true)
    (ho : st.kind = .orthogonal → presentAt (.map m) "parallel states" = true) :
    ∃ subs, importSubs (.map m) st = .ok subs ∧ (∀ s ∈ subs, ∃ s0, vState f s0 = some s) ∧
      nodesList subs + 1 ≤ nodesMap m := by
  unfold importSubs
  by_cases hk : st.kind = .compound
  · have ht := hc hk
    simp only [presentAt] at ht
    cases hg : (Data.map m).get? "states" with
    | none => rw [hg] at ht; exact absurd ht (by simp)
    | some v =>
      obtain ⟨l, rfl, hl⟩ := h.states v hg
      have := nodes_get m _ _ hg
      simp only [Data.nodes] at this
      simp only [hk, beq_self_eq_true, if_true]
      exact ⟨l, rfl, hl, by omega⟩
  · by_cases hk2 : st.kind = .orthogonal
    · have ht := ho hk2
      simp only [presentAt] at ht
      cases hg : (Data.map m).get? "parallel states" with
      | none => rw [hg] at ht; exact absurd ht (by simp)
      | some v =>
        obtain ⟨l, rfl, hl⟩ := h.parallel v hg
        have := nodes_get m _ _ hg
        simp only [Data.nodes] at this
        have e1 : (st.kind == Kind.compound) = false := by simp [hk]
        simp only [hk2, beq_self_eq_true, if_true]
        exact ⟨l, rfl, hl, by omega⟩
    · have e1 : (st.kind == Kind.compound) = false := by simp [hk]
      have e2 : (st.kind == Kind.orthogonal) = false := by simp [hk2]
      simp only [e1, e2, Bool.false_eq_true, if_false]
      refine ⟨[], rfl, by simp, ?_⟩
      simp only [nodesList]
      -- a validated state has a `name` entry, so its map is not empty
      obtain ⟨s, hs⟩ := h.name
      have := nodes_get m _ _ hs
      simp only [Data.nodes] at this
      omega

theorem importTds_ok (d : Data) (h : ∀ v, d.get? "transitions" = some v → ∃ l, v = .list l) :
    ∃ tds, importTds d = .ok tds := by
  unfold importTds
  cases hg : d.get? "transitions" with
  | none => exact ⟨[], rfl⟩
  | some v =>
    obtain ⟨l, rfl⟩ := h v hg
    exact ⟨l, rfl⟩

theorem importLoop_not_other : ∀ (fuel : Nat) (todo : List (Data × Option Name))
    (sts : List (StateDef × Option Name)) (ts : List Trans),
    (∀ x ∈ todo, ∃ f, StateOK f x.1) → todoSize todo + 1 ≤ fuel →
    importLoop fuel todo sts ts ≠ .error .other
  | 0, _, _, _, _, hf => by omega
  | fuel+1, todo, sts, ts, hok, hf => by
    rcases List.eq_nil_or_concat todo with rfl | ⟨init, ⟨d, par⟩, rfl⟩
    · rw [importLoop]; exact fun h => nomatch h
    rw [List.concat_eq_append] at hok hf ⊢
    rw [importLoop_snoc]
    obtain ⟨f, hd⟩ := hok (d, par) (List.mem_append_right _ List.mem_cons_self)
    rcases importState_spec f d hd with he | ⟨st, hst, hc, ho⟩
    · simp [he]
    · obtain ⟨m, rfl⟩ := hd.isMap
      obtain ⟨subs, hsubs, hsv, hsz⟩ := importSubs_spec f m st hd hc ho
      obtain ⟨tds, htds⟩ := importTds_ok _ hd.transitions
      simp only [hst, hsubs, htds]
      cases hm : tds.mapM (importTransition st.name) with
      | error e => simp
      | ok new =>
        simp only
        apply importLoop_not_other fuel
        · intro x hx
          rcases List.mem_append.mp hx with hx | hx
          · exact hok x (List.mem_append_left _ hx)
          · obtain ⟨s, hs, rfl⟩ := List.mem_map.mp hx
            obtain ⟨s0, hs0⟩ := hsv s hs
            cases f with
            | zero => simp [vState] at hs0
            | succ f' => exact ⟨f', vState_ok f' s0 s hs0⟩
        · have h1 : todoSize (init ++ [(Data.map m, par)]) = todoSize init + (1 + nodesMap m) := by
            rw [todoSize_append]
            simp [todoSize, nodesList, Data.nodes]
          rw [todoSize_append, todoSize_subs]
          omega

end Sismic

namespace Sismic

theorem buildChart_not_other (c0 : Chart) (sts : List (StateDef × Option Name)) (ts : List Trans) :
    buildChart c0 sts ts ≠ .error .other := by
  have h1 := (foldl_bind_rule addStateStep sts (fun _ _ => True) (· ≠ .other)
    (fun _ p _ b _ _ => ⟨fun _ _ => trivial, fun e he => by
      unfold addStateStep at he; split at he <;> cases he; nofun⟩) sts [] c0 rfl trivial).2
  unfold buildChart
  split
  · next e he => exact fun h => h1 e he (Except.error.inj h)
  · next c1 _ =>
    have h2 := (foldl_bind_rule addTransStep ts (fun _ _ => True) (· ≠ .other)
      (fun _ t _ b _ _ => ⟨fun _ _ => trivial, fun e he => by
        unfold addTransStep at he; split at he <;> cases he; nofun⟩) ts [] c1 rfl trivial).2
    split
    · next e he => exact fun h => h2 e he (Except.error.inj h)
    · split <;> simp

theorem importYamlData_not_other (fuel : Nat) (d : Data) : importYamlData fuel d ≠ .error .other := by
  unfold importYamlData
  cases hv : schemaValidate fuel d with
  | none => simp
  | some d' =>
    simp only
    unfold schemaValidate at hv
    obtain ⟨l, rfl, hfrom, hreq⟩ := vDict_spec _ _ _ hv
    obtain ⟨sc, hsc⟩ := hreq _ List.mem_cons_self rfl
    obtain ⟨e, he, v0, hv0⟩ := hfrom "statechart" sc hsc
    simp [List.find?] at he; subst he
    obtain ⟨l2, rfl, hfrom2, hreq2⟩ := vDict_spec _ _ _ hv0
    obtain ⟨nm, hnm⟩ := hreq2 ("name", false, vUseStr) (by simp) rfl
    obtain ⟨e2, he2, n0, hn0⟩ := hfrom2 "name" nm hnm
    simp [List.find?] at he2; subst he2
    obtain ⟨name, rfl⟩ := vUseStr_str _ _ hn0
    obtain ⟨root, hroot⟩ := hreq2 ("root state", false, vState fuel) (by simp) rfl
    obtain ⟨e3, he3, r0, hr0⟩ := hfrom2 "root state" root hroot
    simp [List.find?] at he3; subst he3
    unfold importDict
    simp only [hsc, hnm, hroot]
    have hloop : importLoop ((Data.map l).nodes + 2) [(root, none)] [] [] ≠ .error .other := by
      apply importLoop_not_other
      · intro x hx
        simp only [List.mem_singleton] at hx
        subst hx
        cases fuel with
        | zero => simp [vState] at hr0
        | succ f => exact ⟨f, vState_ok f r0 root hr0⟩
      · have h1 := nodes_get l2 _ _ hroot
        have h2 := nodes_get l _ _ hsc
        simp only [Data.nodes] at h2 ⊢
        simp only [todoSize, List.map_cons, List.map_nil, nodesList]
        omega
    split
    · next e he =>
      intro h
      injection h with h
      subst h
      exact hloop he
    · exact buildChart_not_other _ _ _

end Sismic
