import Sismic.Proofs.EquivSelect
import Sismic.Proofs.C06
/-!
# Sismic.Proofs.EquivPlan — `_sort_transitions`, `_create_steps`, `_create_stabilization_step` commute with the renaming

For `ρ` as in `EquivSelect`: `_sort_transitions` raises the same error or returns the substituted
order; `_create_steps` and `_create_stabilization_step` give the substituted micro steps.
-/
namespace Sismic

def Micro.rename (ρ : Name → Name) (ι : Nat → Nat) (m : Micro) : Micro :=
  { m with transition := m.transition.map (Trans.relabel ρ ι), entered := m.entered.map ρ, exited := m.exited.map ρ }

section
variable {S : Name → Prop} {ρ : Name → Name} {ι : Nat → Nat} (hρ : RenOK S ρ)
include hρ

theorem RenOK.beq_opt (x : Name) (l : Option Name) (hx : S x) (hl : ∀ y, l = some y → S y) :
    (some (ρ x) == l.map ρ) = (some x == l) :=
  hρ.opt_beq (some x) l (fun _ h => Option.some.inj h ▸ hx) hl

theorem lastBeforeGo_rename (l : Option Name) (hl : ∀ y, l = some y → S y) : ∀ (cur : Name) (xs : List Name),
    (∀ x ∈ xs, S x) → lastBeforeGo (l.map ρ) (ρ cur) (xs.map ρ) = ρ (lastBeforeGo l cur xs)
  | _, [], _ => rfl
  | cur, x :: xs, h => by
    simp only [List.map_cons, lastBeforeGo, hρ.beq_opt x l (h x (by simp)) hl]
    split
    · rfl
    · exact lastBeforeGo_rename l hl x xs (fun y hy => h y (by simp [hy]))

theorem lastBefore_rename (c : Chart) (hc : NamesIn S c) {c' : Chart} (hr : IsRen ρ ι c c') (s : Name) (hs : S s) (l : Option Name)
    (hl : ∀ y, l = some y → S y) :
    lastBefore c' (ρ s) (l.map ρ) = ρ (lastBefore c s l) := by
  simp only [lastBefore, ancestors_mapNames hρ c hc hr s hs]
  exact lastBeforeGo_rename hρ l hl s _ (fun x hx => hc.ancestors_in s x hx)

end

section
variable {S : Name → Prop}

theorem lastBeforeGo_in (l : Option Name) : ∀ (cur : Name) (xs : List Name), S cur → (∀ x ∈ xs, S x) →
    S (lastBeforeGo l cur xs)
  | _, [], hc, _ => hc
  | cur, x :: xs, hc, h => by
    simp only [lastBeforeGo]
    split
    · exact hc
    · exact lastBeforeGo_in l x xs (h x (by simp)) (fun y hy => h y (by simp [hy]))

theorem NamesIn.lastBefore_in {c : Chart} (hc : NamesIn S c) (s : Name) (hs : S s) (l : Option Name) :
    S (lastBefore c s l) :=
  lastBeforeGo_in l s _ hs (fun x hx => hc.ancestors_in s x hx)

theorem NamesIn.lca_in {c : Chart} (hc : NamesIn S c) (a b y : Name) (h : c.lca a b = some y) : S y := by
  simp only [Chart.lca] at h
  exact hc.ancestors_in a y (List.mem_of_find?_eq_some h)

end

section
variable {S : Name → Prop} {ρ : Name → Name} {ι : Nat → Nat} (hρ : RenOK S ρ)
include hρ

theorem nonDetPair_rename (c : Chart) (hc : NamesIn S c) {c' : Chart} (hr : IsRen ρ ι c c') (a b : Trans) (ha : S a.source) (hb : S b.source) :
    nonDetPair c' (a.relabel ρ ι) (b.relabel ρ ι) = nonDetPair c a b := by
  simp only [nonDetPair, Trans.relabel, hρ.beq _ _ ha hb, lca_mapNames hρ c hc hr _ _ ha hb]
  cases h : c.lca a.source b.source with
  | none => rfl
  | some l => simp only [Option.map_some, kindOf_mapNames hρ c hc hr l (hc.lca_in _ _ l h)]

theorem leavesRegion_rename (c : Chart) (hc : NamesIn S c) {c' : Chart} (hr : IsRen ρ ι c c') (l : Option Name) (hl : ∀ y, l = some y → S y)
    (t : Trans) (hs : S t.source) (ht : ∀ g, t.target = some g → S g) :
    leavesRegion c' (l.map ρ) (t.relabel ρ ι) = leavesRegion c l t := by
  simp only [leavesRegion, Trans.relabel]
  cases hg : t.target with
  | none => rfl
  | some tg =>
    simp only [Option.map_some, lastBefore_rename hρ c hc hr t.source hs l hl]
    have hlb : S (lastBefore c t.source l) := hc.lastBefore_in _ hs l
    rw [descendants_mapNames hρ c hc hr _ hlb, ← List.map_cons,
      hρ.contains _ tg (by
        intro y hy
        rcases List.mem_cons.1 hy with e | h
        · subst e; exact hlb
        · exact hc.descendants_in _ y h) (ht tg hg)]

theorem conflictPair_rename (c : Chart) (hc : NamesIn S c) {c' : Chart} (hr : IsRen ρ ι c c') (a b : Trans) (ha : S a.source) (hb : S b.source)
    (hat : ∀ g, a.target = some g → S g) (hbt : ∀ g, b.target = some g → S g) :
    conflictPair c' (a.relabel ρ ι) (b.relabel ρ ι) = conflictPair c a b := by
  simp only [conflictPair]
  have e : c'.lca (a.relabel ρ ι).source (b.relabel ρ ι).source = (c.lca a.source b.source).map ρ :=
    lca_mapNames hρ c hc hr _ _ ha hb
  have hl : ∀ y, c.lca a.source b.source = some y → S y := fun y h => hc.lca_in _ _ y h
  rw [e, leavesRegion_rename hρ c hc hr _ hl a ha hat, leavesRegion_rename hρ c hc hr _ hl b hb hbt]

theorem leTrans_rename (c : Chart) (hc : NamesIn S c) {c' : Chart} (hr : IsRen ρ ι c c') (a b : Trans) (ha : S a.source) (hb : S b.source) :
    leTrans c' (a.relabel ρ ι) (b.relabel ρ ι) = leTrans c a b :=
  leRevDepthName_mapNames hρ c hc hr _ _ ha hb

/-- **`_sort_transitions` commutes with the renaming**: the same error, or the substituted order. -/
theorem sortTransitions_rename (c : Chart) (hc : NamesIn S c) {c' : Chart} (hr : IsRen ρ ι c c') (ts : List Trans) (hts : ∀ t ∈ ts, t ∈ c.transitions) :
    sortTransitions c' (ts.map (Trans.relabel ρ ι)) =
      (sortTransitions c ts).map (List.map (Trans.relabel ρ ι)) := by
  have hs : ∀ t ∈ ts, S t.source := fun t h => hc.transS t (hts t h)
  have ht : ∀ t ∈ ts, ∀ g, t.target = some g → S g := fun t h => hc.transT t (hts t h)
  have e1 : ((pairs ts).map (fun p => (Trans.relabel ρ ι p.1, Trans.relabel ρ ι p.2))).any
      (fun p => nonDetPair c' p.1 p.2) = (pairs ts).any (fun p => nonDetPair c p.1 p.2) :=
    any_map_comm _ _ _ _ fun p hp =>
      nonDetPair_rename hρ c hc hr p.1 p.2 (hs _ (mem_pairs_mem ts p hp).1) (hs _ (mem_pairs_mem ts p hp).2)
  have e2 : ((pairs ts).map (fun p => (Trans.relabel ρ ι p.1, Trans.relabel ρ ι p.2))).any
      (fun p => conflictPair c' p.1 p.2) = (pairs ts).any (fun p => conflictPair c p.1 p.2) :=
    any_map_comm _ _ _ _ fun p hp =>
      conflictPair_rename hρ c hc hr p.1 p.2 (hs _ (mem_pairs_mem ts p hp).1) (hs _ (mem_pairs_mem ts p hp).2)
        (ht _ (mem_pairs_mem ts p hp).1) (ht _ (mem_pairs_mem ts p hp).2)
  have e3 := isort_map (Trans.relabel ρ ι) (leTrans c) (leTrans c') ts
    (fun x hx y hy => leTrans_rename hρ c hc hr x y (hs x hx) (hs y hy))
  simp only [sortTransitions, List.length_map, pairs_map, e1, e2, e3, apply_ite (Except.map (List.map (Trans.relabel ρ ι)))]
  rfl

/-- **`_create_steps` commutes with the renaming.** -/
theorem createStep_rename (c : Chart) (hc : NamesIn S c) {c' : Chart} (hr : IsRen ρ ι c c') (cfg : List Name) (hcfg : ∀ x ∈ cfg, S x)
    (ev : Option Event) (t : Trans) (ht : t ∈ c.transitions) :
    createStep c' (cfg.map ρ) ev (t.relabel ρ ι) = (createStep c cfg ev t).rename ρ ι := by
  have hs : S t.source := hc.transS t ht
  simp only [createStep]
  cases hg : t.target with
  | none => simp [Trans.relabel, hg, Micro.rename]
  | some tg =>
    have htg : S tg := hc.transT t ht tg hg
    have e0 : (t.relabel ρ ι).target = some (ρ tg) := by simp [Trans.relabel, hg]
    simp only [e0]
    have hl : ∀ y, c.lca t.source tg = some y → S y := fun y h => hc.lca_in _ _ y h
    have e1 : c'.lca (t.relabel ρ ι).source (ρ tg) = (c.lca t.source tg).map ρ :=
      lca_mapNames hρ c hc hr _ _ hs htg
    have e2 : lastBefore c' (t.relabel ρ ι).source ((c.lca t.source tg).map ρ) =
        ρ (lastBefore c t.source (c.lca t.source tg)) := lastBefore_rename hρ c hc hr t.source hs _ hl
    have hlb : S (lastBefore c t.source (c.lca t.source tg)) := hc.lastBefore_in _ hs _
    simp only [e1, e2, Micro.rename, Option.map_some, List.map_append, List.map_cons, List.map_nil]
    rw [Micro.mk.injEq]
    refine ⟨rfl, rfl, ?_, ?_, rfl⟩
    · rw [ancestors_mapNames hρ c hc hr tg htg,
        takeWhile_map_comm ρ (fun x => some x != c.lca t.source tg) _ _
          (fun x hx => by simp only [bne, hρ.beq_opt x _ (hc.ancestors_in tg x hx) hl]),
        List.map_reverse]
    · rw [descendants_mapNames hρ c hc hr _ hlb]
      rw [isort_map ρ c.leRevDepthName c'.leRevDepthName _
        (fun x hx y hy => leRevDepthName_mapNames hρ c hc hr x y (hc.descendants_in _ x hx) (hc.descendants_in _ y hy))]
      rw [filter_map_comm ρ (fun x => cfg.contains x) (fun x => (cfg.map ρ).contains x) _
        (fun x hx => hρ.contains cfg x hcfg (hc.descendants_in _ x ((mem_isort _ _ x).1 hx)))]
      rw [hρ.contains cfg _ hcfg hlb]
      split <;> rfl

theorem createSteps_rename (c : Chart) (hc : NamesIn S c) {c' : Chart} (hr : IsRen ρ ι c c') (cfg : List Name) (hcfg : ∀ x ∈ cfg, S x)
    (ev : Option Event) (ts : List Trans) (hts : ∀ t ∈ ts, t ∈ c.transitions) :
    createSteps c' (cfg.map ρ) ev (ts.map (Trans.relabel ρ ι)) =
      (createSteps c cfg ev ts).map (Micro.rename ρ ι) := by
  simp only [createSteps, List.map_map]
  apply List.map_congr_left
  intro t ht
  exact createStep_rename hρ c hc hr cfg hcfg ev t (hts t ht)

end

/-! ### `_create_stabilization_step` -/

def renameMemory (ρ : Name → Name) (m : List (Name × List Name)) : List (Name × List Name) :=
  m.map (fun p => (ρ p.1, p.2.map ρ))

section
variable {S : Name → Prop} {ρ : Name → Name} {ι : Nat → Nat} (hρ : RenOK S ρ)
include hρ

theorem leName_rename (a b : Name) (ha : S a) (hb : S b) : leName (ρ a) (ρ b) = leName a b := by
  simp only [leName, hρ.mono a b ha hb]

omit hρ in
theorem NamesIn.root_in {c : Chart} (hc : NamesIn S c) (y : Name) (h : c.root = some y) : S y := by
  simp only [Chart.root] at h
  cases hf : c.parent.find? (fun p => p.2 == none) with
  | none => rw [hf] at h; cases h
  | some p =>
    rw [hf] at h
    simp only [Option.map_some, Option.some.injEq] at h
    exact h ▸ hc.parentK p (List.mem_of_find?_eq_some hf)

theorem memory_find_rename (leaf : Name) (hleaf : S leaf) (m : List (Name × List Name)) (hm : ∀ p ∈ m, S p.1) :
    (renameMemory ρ m).find? (fun p => p.1 == ρ leaf) =
      (m.find? (fun p => p.1 == leaf)).map (fun p => (ρ p.1, p.2.map ρ)) :=
  find?_map_comm _ _ _ _ (fun p hp => hρ.beq p.1 leaf (hm p hp) hleaf)

theorem leafStep_rename (c : Chart) (hc : NamesIn S c) {c' : Chart} (hr : IsRen ρ ι c c') (memory : List (Name × List Name))
    (hmk : ∀ p ∈ memory, S p.1) (hmv : ∀ p ∈ memory, ∀ x ∈ p.2, S x) (leaf : Name) (hleaf : S leaf) :
    leafStep c' (renameMemory ρ memory) (ρ leaf) = (leafStep c memory leaf).map (Micro.rename ρ ι) := by
  have hsf := stateFor_mapNames hρ c hc hr leaf hleaf
  cases hs : c.stateFor leaf with
  | none => unfold leafStep; rw [hsf, hs]; rfl
  | some s =>
    have hsm : s ∈ c.states := List.mem_of_find?_eq_some hs
    rw [hs] at hsf
    rw [leafStep_eq c' _ (hsf : _ = some (s.rename ρ)), leafStep_eq c memory hs,
      show (StateDef.rename ρ s).kind = s.kind from rfl]
    have key : ∀ m : List Name, (∀ x ∈ m, S x) →
        isort c'.leDepthName (m.map ρ) = (isort c.leDepthName m).map ρ := fun m hm =>
      isort_map ρ _ _ m (fun x hx y hy => leDepthName_mapNames hρ c hc hr x y (hm x hx) (hm y hy))
    cases hk : s.kind <;> dsimp only
    case basic => rfl
    case compound =>
      have : (StateDef.rename ρ s).initial = s.initial.map ρ := by
        show (if s.kind == .compound then s.initial.map ρ else s.initial) = _
        rw [hk]; rfl
      rw [this]
      cases s.initial <;> rfl
    case orthogonal =>
      rw [childrenFor_mapNames hρ c hc hr leaf hleaf, List.isEmpty_map, isort_map ρ leName leName _ (fun x hx y hy =>
        leName_rename hρ x y (hc.childrenFor_in leaf x hx) (hc.childrenFor_in leaf y hy))]
      cases (c.childrenFor leaf).isEmpty <;> rfl
    case shallow | deep =>
      -- a history state: what is restored is the substituted memory
      rw [memory_find_rename hρ leaf hleaf memory hmk]
      cases hf : memory.find? (fun p => p.1 == leaf) with
      | none =>
        have hmem : (StateDef.rename ρ s).memory.toList = s.memory.toList.map ρ := by
          show (if s.kind.isHistory then s.memory.map ρ else s.memory).toList = _
          rw [hk]; cases s.memory <;> rfl
        simp only [Option.map_none, hmem, key _ (fun x hx => hc.memory s hsm x (Option.mem_toList.1 hx))]
        rfl
      | some p =>
        simp only [Option.map_some, key _ (hmv p (List.mem_of_find?_eq_some hf))]
        rfl
    case final =>
      have hroot : c'.root = c.root.map ρ := root_mapNames c hr
      have hpr : (c'.parentFor (ρ leaf) == c'.root) = (c.parentFor leaf == c.root) := by
        rw [parentFor_mapNames hρ c hc hr leaf hleaf, hroot]
        exact hρ.opt_beq _ _ (fun y h => hc.parentFor_in leaf y h) (fun y h => hc.root_in y h)
      rw [hpr, hroot]
      cases c.parentFor leaf == c.root <;> cases c.root <;> rfl

theorem completeStep_rename (c : Chart) (hc : NamesIn S c) {c' : Chart} (hr : IsRen ρ ι c c') (cfg : List Name) (hcfg : ∀ x ∈ cfg, S x)
    (n : Name) (hn : S n) :
    completeStep c' (cfg.map ρ) (ρ n) = (completeStep c cfg n).map (Micro.rename ρ ι) := by
  simp only [completeStep, kindOf_mapNames hρ c hc hr n hn, childrenFor_mapNames hρ c hc hr n hn]
  split
  · rw [filter_map_comm ρ (fun x => !cfg.contains x) (fun x => !(cfg.map ρ).contains x) _
      (fun x hx => by simp only [hρ.contains cfg x hcfg (hc.childrenFor_in n x hx)])]
    rw [isort_map ρ leName leName _ (fun x hx y hy =>
      leName_rename hρ x y (hc.childrenFor_in n x (List.mem_filter.1 hx).1) (hc.childrenFor_in n y (List.mem_filter.1 hy).1))]
    simp only [List.isEmpty_map]
    split
    · rfl
    · simp [Micro.rename]
  · rfl

/-- **`_create_stabilization_step` commutes with the renaming.** -/
theorem stabilizationStep_rename (c : Chart) (hc : NamesIn S c) {c' : Chart} (hr : IsRen ρ ι c c') (memory : List (Name × List Name))
    (hmk : ∀ p ∈ memory, S p.1) (hmv : ∀ p ∈ memory, ∀ x ∈ p.2, S x) (cfg : List Name) (hcfg : ∀ x ∈ cfg, S x) :
    stabilizationStep c' (renameMemory ρ memory) (cfg.map ρ) =
      (stabilizationStep c memory cfg).map (Micro.rename ρ ι) := by
  simp only [stabilizationStep]
  have hleaf : ∀ x ∈ c.leafFor cfg, S x := fun x hx => hcfg x (List.mem_filter.1 hx).1
  rw [leafFor_mapNames hρ c hc hr cfg hcfg,
    isort_map ρ c.leRevDepthName c'.leRevDepthName _
      (fun x hx y hy => leRevDepthName_mapNames hρ c hc hr x y (hleaf x hx) (hleaf y hy)),
    findSome?_map_comm ρ (Micro.rename ρ ι) (leafStep c memory) _ _
      (fun x hx => leafStep_rename hρ c hc hr memory hmk hmv x (hleaf x ((mem_isort _ _ x).1 hx)))]
  cases (isort c.leRevDepthName (c.leafFor cfg)).findSome? (leafStep c memory) with
  | some m => rfl
  | none =>
    simp only [Option.map_none]
    rw [isort_map ρ c.leDepthName c'.leDepthName _
        (fun x hx y hy => leDepthName_mapNames hρ c hc hr x y (hcfg x hx) (hcfg y hy)),
      findSome?_map_comm ρ (Micro.rename ρ ι) (completeStep c cfg) _ _
        (fun x hx => completeStep_rename hρ c hc hr cfg hcfg x (hcfg x ((mem_isort _ _ x).1 hx)))]

end

end Sismic
