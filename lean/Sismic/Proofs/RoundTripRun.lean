import Sismic.Proofs.PyRename
import Sismic.Proofs.Equiv
import Sismic.Proofs.Rename
/-!
# Sismic.Proofs.RoundTripRun — a statechart with the same content behaves identically

Two statecharts whose dictionaries are consistent (`Tidy`) and which give the same answers to every
lookup (`state_for`, `parent_for`, the children of a state as a set) and hold the same transitions
but for their identities, are — up to a re-identification `ι` of the transitions — declared in
another order (`ChartPerm`).  By C07 (declaration order is invisible) and the relabelling theorem
(`EquivRun`, with `ρ = id`) they produce the same runs but for the identities of the transitions.
This is what the YAML round trip delivers (`RoundTripBuild.import_export_succeeds`).
-/
namespace Sismic

/-- a transition with another identity -/
def Trans.reid (i : Nat) (t : Trans) : Trans := { t with id := i }

theorem Trans.reid_zero_eq {t u : Trans} (h : t.reid 0 = u.reid 0) : u = t.reid u.id := by
  cases t; cases u
  simp only [Trans.reid, Trans.mk.injEq, true_and] at h
  obtain ⟨h2, h3, h4, h5, h6, h7, h8, h9, h10⟩ := h
  subst h2 h3 h4 h5 h6 h7 h8 h9 h10
  rfl

/-- if `l'` is `l` but for the identities and the order, and the identities in `l` are distinct,
    there is a map `ι` of identities under which `l'` is a permutation of the re-identified `l` -/
theorem exists_reid : ∀ (l l' : List Trans), (l.map (·.id)).Nodup →
    (l'.map (Trans.reid 0)).Perm (l.map (Trans.reid 0)) →
    ∃ ι : Nat → Nat, l'.Perm (l.map (fun t => t.reid (ι t.id)))
  | [], l', _, hp => by
    have : l' = [] := by simpa using hp.length_eq
    exact ⟨id, by rw [this]; exact List.Perm.nil⟩
  | t :: ts, l', hn, hp => by
    rw [List.map_cons] at hn
    obtain ⟨ht, hn'⟩ := List.nodup_cons.mp hn
    -- the counterpart of `t` in `l'`
    have hm : t.reid 0 ∈ l'.map (Trans.reid 0) := hp.symm.subset (by simp)
    obtain ⟨u, hu, hue⟩ := List.mem_map.1 hm
    have hu' : u = t.reid u.id := Trans.reid_zero_eq hue.symm
    obtain ⟨s1, s2, hsplit⟩ := List.append_of_mem hu
    have hmid : l'.Perm (u :: (s1 ++ s2)) := by rw [hsplit]; exact List.perm_middle
    have hp' : ((s1 ++ s2).map (Trans.reid 0)).Perm (ts.map (Trans.reid 0)) := by
      have h1 : (l'.map (Trans.reid 0)).Perm (u.reid 0 :: (s1 ++ s2).map (Trans.reid 0)) := by
        simpa using hmid.map (Trans.reid 0)
      rw [hue] at h1
      exact (List.perm_cons _).1 (h1.symm.trans (by simpa using hp))
    obtain ⟨ι, hι⟩ := exists_reid ts (s1 ++ s2) hn' hp'
    refine ⟨fun i => if i = t.id then u.id else ι i, ?_⟩
    have hrest : ts.map (fun x => x.reid ((fun i => if i = t.id then u.id else ι i) x.id)) =
        ts.map (fun x => x.reid (ι x.id)) := by
      apply List.map_congr_left
      intro x hx
      have : x.id ≠ t.id := fun e => ht (List.mem_map.2 ⟨x, hx, e⟩)
      simp [this]
    simp only [List.map_cons, if_true, hrest]
    rw [← hu']
    exact hmid.trans (List.Perm.cons u hι)

/-! ### same content ⇒ declared in another order, up to the identities of the transitions -/

theorem chartPerm_of_lookups (c c' : Chart) (T : List Trans) (hc : Tidy c) (hc' : Tidy c')
    (F1 : ∀ n, c'.stateFor n = c.stateFor n) (F2 : ∀ n, c'.parentFor n = c.parentFor n)
    (F3 : ∀ q m, m ∈ c'.childrenFor q ↔ m ∈ c.childrenFor q) (hT : c'.transitions.Perm T) :
    ChartPerm { c with transitions := T } c' := by
  have HS : ∀ n, c'.hasState n = c.hasState n := fun n => by simp [Chart.hasState, F1]
  refine ⟨?_, hc.names, ?_, hc.parentKeys, hc.oneRoot, ?_, hT⟩
  · exact perm_of_lookups (·.name) c.states c'.states hc.names hc'.names F1
  · -- the `_parent` entries: same keys (the states), same values
    apply perm_of_lookups (·.1) c.parent c'.parent hc.parentKeys hc'.parentKeys
    intro k
    have key : ∀ (d : Chart), Tidy d → ∀ k, d.parent.find? (fun y => y.1 == k) =
        if d.hasState k then some (k, d.parentFor k) else none := by
      intro d hd k
      cases hf : d.parent.find? (fun y => y.1 == k) with
      | none =>
        have hnk : k ∉ d.parent.map (·.1) := by
          intro hk
          obtain ⟨p, hp, e⟩ := List.mem_map.1 hk
          have := List.find?_eq_none.1 hf p hp
          simp [e] at this
        have : d.hasState k = false := by
          cases hh : d.hasState k with
          | false => rfl
          | true => exact absurd (hd.statesHaveEntry k hh) hnk
        simp [this]
      | some p =>
        have hp := List.mem_of_find?_eq_some hf
        have hk : p.1 = k := by simpa using List.find?_some hf
        have : d.hasState k = true := hd.parentKeysStates k (List.mem_map.2 ⟨p, hp, hk⟩)
        simp only [this, if_true, Chart.parentFor, hf]
        cases p; simp_all
    rw [key c' hc' k, key c hc k, HS k, F2 k]
  · intro n
    exact (List.perm_ext_iff_of_nodup (hc'.childrenNodup n) (hc.childrenNodup n)).2 (fun m => F3 n m)

/-! ### re-identifying the transitions of a statechart changes nothing the structure knows of -/

theorem StateDef.rename_id (s : StateDef) : s.rename _root_.id = s := by
  have h : ∀ o : Option Name, o.map _root_.id = o := fun o => by cases o <;> rfl
  cases s
  simp [StateDef.rename, h]

/-- `c` with its transitions re-identified by `ι` -/
def Chart.reid (ι : Nat → Nat) (c : Chart) : Chart :=
  { c with transitions := c.transitions.map (fun t => t.reid (ι t.id)) }

theorem Trans.relabel_id (ι : Nat → Nat) (t : Trans) : t.relabel _root_.id ι = t.reid (ι t.id) := by
  have h : ∀ o : Option Name, o.map _root_.id = o := fun o => by cases o <;> rfl
  cases t
  simp [Trans.relabel, Trans.reid, h]

theorem isRen_reid (ι : Nat → Nat) (c : Chart) : IsRen id ι c (c.reid ι) where
  states := by
    show c.states = c.states.map (StateDef.rename id)
    rw [List.map_congr_left (g := id) (fun s _ => StateDef.rename_id s), List.map_id]
  parent := by
    show c.parent = c.parent.map (fun p => (id p.1, p.2.map id))
    rw [List.map_congr_left (g := id) (fun p _ => by simp), List.map_id]
  children := by
    show c.children = c.children.map (fun p => (p.1.map id, p.2.map id))
    rw [List.map_congr_left (g := id) (fun p _ => by simp), List.map_id]
  transitions := by
    show c.transitions.map (fun t => t.reid (ι t.id)) = c.transitions.map (Trans.relabel id ι)
    exact List.map_congr_left (fun t _ => (Trans.relabel_id ι t).symm)

theorem renOK_id : RenOK (fun _ => True) (id : Name → Name) := ⟨fun _ _ _ _ h => h, fun _ _ _ _ => Iff.rfl⟩

theorem namesIn_true (c : Chart) : NamesIn (fun _ => True) c :=
  ⟨fun _ _ => trivial, fun _ _ _ _ => trivial, fun _ _ => trivial, fun _ _ _ _ => trivial, fun _ _ _ _ => trivial,
   fun _ _ _ _ => trivial, fun _ _ => trivial, fun _ _ _ _ => trivial⟩

section ReidFuncs
variable (ι : Nat → Nat) (c : Chart)

theorem reid_stateFor (n : Name) : (c.reid ι).stateFor n = c.stateFor n := rfl
theorem reid_parentFor (n : Name) : (c.reid ι).parentFor n = c.parentFor n := rfl
theorem reid_childrenFor (n : Name) : (c.reid ι).childrenFor n = c.childrenFor n := rfl
theorem reid_hasState (n : Name) : (c.reid ι).hasState n = c.hasState n := rfl
theorem reid_kindOf (n : Name) : (c.reid ι).kindOf n = c.kindOf n := rfl
theorem reid_root : (c.reid ι).root = c.root := rfl

theorem reid_lca (a b : Name) : (c.reid ι).lca a b = c.lca a b := by
  have := lca_mapNames renOK_id c (namesIn_true c) (isRen_reid ι c) a b trivial trivial
  simpa using this

theorem reid_lastBefore (s : Name) (l : Option Name) : lastBefore (c.reid ι) s l = lastBefore c s l := by
  have := lastBefore_rename renOK_id c (namesIn_true c) (isRen_reid ι c) s trivial l (fun _ _ => trivial)
  simpa using this

theorem wf_reid (hw : WFChart c) : WFChart (c.reid ι) where
  tree := by
    obtain ⟨r, h1, h2⟩ := hw.tree.rank
    exact ⟨⟨r, fun s p h => h1 s p h, fun s => h2 s⟩⟩
  names := hw.names
  root := hw.root
  parentState := hw.parentState
  nonroot := hw.nonroot
  children := hw.children
  childrenNodup := hw.childrenNodup
  composite := hw.composite
  initial := hw.initial
  regions := hw.regions
  history := hw.history
  transitions := by
    intro t ht
    obtain ⟨u, hu, rfl⟩ := List.mem_map.1 ht
    exact hw.transitions u hu
  sourceKind := by
    intro t ht
    obtain ⟨u, hu, rfl⟩ := List.mem_map.1 ht
    exact hw.sourceKind u hu
  noCross := by
    intro t ht tg l htg hl hk
    obtain ⟨u, hu, rfl⟩ := List.mem_map.1 ht
    rw [reid_lastBefore, reid_lastBefore]
    rw [reid_lca] at hl
    exact hw.noCross u hu tg l htg hl hk

end ReidFuncs

/-- the identities the store may be asked about: every state, the transitions of `c` -/
def InDom (c : Chart) : ObjId → Prop
  | .state _ => True
  | .trans i => i ∈ c.transitions.map (·.id)

/-- evaluator states of the two runs: same variables; the `__old__` store of the second is that of
    the first under the re-identified keys -/
def PyR (ι : Nat → Nat) (c : Chart) (a a' : PyCtx) : Prop :=
  a'.vars = a.vars ∧ a'.unsupported = a.unsupported ∧
    ∀ o, InDom c o → assocGet (o.ren id ι) a'.old = assocGet o a.old

theorem renKeys_id {ν : Type} (l : List (Name × ν)) : renKeys id l = l := by
  unfold renKeys
  rw [List.map_congr_left (g := id) (fun p _ => by simp), List.map_id]

theorem renameMemory_id (l : List (Name × List Name)) : renameMemory id l = l := by
  unfold renameMemory
  rw [List.map_congr_left (g := id) (fun p _ => by simp), List.map_id]

theorem metaR_id {m m' : Event} (h : MetaR id m m') : m' = m := by
  cases h with
  | same => rfl
  | entered => rfl
  | exited => rfl
  | processed s tg ev => cases tg <;> rfl

theorem pyR_eq (ι : Nat → Nat) (c : Chart) : PyR ι c = PyRen id ι (fun _ => True) c := by
  have : InDom c = InDomS (fun _ => True) c := funext fun o => by cases o <;> rfl
  unfold PyR PyRen
  rw [this]

variable {ω : Type}

/-- **The two runs are related** (`EnvR` with `ρ = id`): the same statechart but for the identities
    of its transitions, the modelled `PythonEvaluator` on both sides, the same listeners. -/
theorem pyEnvR_reid (ι : Nat → Nat) (env env' : Env PyCtx ω)
    (hc : env'.chart = env.chart.reid ι)
    (hinj : ∀ i j, i ∈ env.chart.transitions.map (·.id) → j ∈ env.chart.transitions.map (·.id) → ι i = ι j → i = j)
    (hE : env.E = pyEvaluator) (hE' : env'.E = pyEvaluator) (hi : env'.ignoreContract = env.ignoreContract)
    (hf : env'.stabFuel = env.stabFuel) (hd : env'.deliver = env.deliver) :
    EnvR id ι (PyR ι env.chart) (fun _ => True) env env' :=
  pyR_eq ι env.chart ▸ pyEnvR ι env env' renOK_id (hc ▸ isRen_reid ι env.chart) (namesIn_true _)
    (fun _ _ _ _ => trivial) hinj env.chart.configFree_id hE hE' hi hf (fun l m m' t w hm => by rw [metaR_id hm, hd])

end Sismic
