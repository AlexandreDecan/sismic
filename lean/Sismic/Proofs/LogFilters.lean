import Sismic.Proofs.OkSpec
/-!
# Sismic.Proofs.LogFilters — projections of the documented effect log (code only, meta-events only,
code + contract evaluations)
-/
namespace Sismic

@[simp] theorem isExec_onExit (n : Name) : (Effect.onExit n).isExec = true := rfl
@[simp] theorem isExec_onEntry (n : Name) : (Effect.onEntry n).isExec = true := rfl
@[simp] theorem isExec_action (t : Nat) (e : Option Event) : (Effect.action t e).isExec = true := rfl
@[simp] theorem isExec_meta (e : Event) : (Effect.metaEv e).isExec = false := rfl
@[simp] theorem isExec_cond (k : CondKind) (o : ObjId) (i : Nat) (e : Option Event) (r : Option Bool) :
    (Effect.cond k o i e r).isExec = false := rfl
@[simp] theorem isExec_guard (t : Nat) (e : Option Event) (r : Option Bool) : (Effect.guard t e r).isExec = false := rfl
@[simp] theorem isMeta_onExit (n : Name) : (Effect.onExit n).isMeta = false := rfl
@[simp] theorem isMeta_onEntry (n : Name) : (Effect.onEntry n).isMeta = false := rfl
@[simp] theorem isMeta_action (t : Nat) (e : Option Event) : (Effect.action t e).isMeta = false := rfl
@[simp] theorem isMeta_meta (e : Event) : (Effect.metaEv e).isMeta = true := rfl
@[simp] theorem isMeta_cond (k : CondKind) (o : ObjId) (i : Nat) (e : Option Event) (r : Option Bool) :
    (Effect.cond k o i e r).isMeta = false := rfl
@[simp] theorem isMeta_guard (t : Nat) (e : Option Event) (r : Option Bool) : (Effect.guard t e r).isMeta = false := rfl

@[simp] theorem isCond_onExit (n : Name) : (Effect.onExit n).isCond = false := rfl
@[simp] theorem isCond_onEntry (n : Name) : (Effect.onEntry n).isCond = false := rfl
@[simp] theorem isCond_action (t : Nat) (e : Option Event) : (Effect.action t e).isCond = false := rfl
@[simp] theorem isCond_meta (e : Event) : (Effect.metaEv e).isCond = false := rfl
@[simp] theorem isCond_cond (k : CondKind) (o : ObjId) (i : Nat) (e : Option Event) (r : Option Bool) :
    (Effect.cond k o i e r).isCond = true := rfl
@[simp] theorem isCond_guard (t : Nat) (e : Option Event) (r : Option Bool) : (Effect.guard t e r).isCond = false := rfl

theorem contractLog_true (kind : CondKind) (obj : Obj) (ev : Option Event) : contractLog true kind obj ev = [] := by
  simp [contractLog]

/-- the log of a contract evaluation that went through holds nothing but evaluations that yielded true -/
theorem mem_condsLogFrom {kind : CondKind} {obj : Obj} {ev : Option Event} {x : Effect} (codes : List Code) :
    ∀ i, x ∈ condsLogFrom kind obj ev i codes → ∃ j, x = .cond kind obj.id j ev (some true) := by
  induction codes with
  | nil => exact fun _ h => nomatch h
  | cons c cs ih =>
    intro i h
    rcases List.mem_cons.mp h with rfl | h
    · exact ⟨i, rfl⟩
    · exact ih _ h

theorem mem_contractLog {ign : Bool} {kind : CondKind} {obj : Obj} {ev : Option Event} {x : Effect}
    (h : x ∈ contractLog ign kind obj ev) : ∃ j, x = .cond kind obj.id j ev (some true) := by
  unfold contractLog at h
  split at h
  · exact nomatch h
  · exact mem_condsLogFrom _ _ h

theorem filter_condsLogFrom (p : Effect → Bool) (hp : ∀ k o i e r, p (.cond k o i e r) = false)
    (kind : CondKind) (obj : Obj) (ev : Option Event) (codes : List Code) (i : Nat) :
    (condsLogFrom kind obj ev i codes).filter p = [] :=
  List.filter_eq_nil_iff.mpr fun x hx => by
    obtain ⟨j, rfl⟩ := mem_condsLogFrom codes i hx
    simp [hp]

theorem filter_contractLog (p : Effect → Bool) (hp : ∀ k o i e r, p (.cond k o i e r) = false)
    (ign : Bool) (kind : CondKind) (obj : Obj) (ev : Option Event) :
    (contractLog ign kind obj ev).filter p = [] :=
  List.filter_eq_nil_iff.mpr fun x hx => by
    obtain ⟨j, rfl⟩ := mem_contractLog hx
    simp [hp]

/-- a projection of logs that respects concatenation respects `flatMap` -/
theorem hom_flatMap {α β γ} (F : List γ → List β) (hnil : F [] = []) (happ : ∀ a b, F (a ++ b) = F a ++ F b)
    (f : α → List γ) : ∀ l : List α, F (l.flatMap f) = l.flatMap (fun a => F (f a))
  | [] => hnil
  | a :: l => by rw [List.flatMap_cons, happ, hom_flatMap F hnil happ f l, List.flatMap_cons]

/-- … so the projection of the log of a micro step is made of the projections of its parts -/
theorem hom_microLog {β} (F : List Effect → List β) (hnil : F [] = []) (happ : ∀ a b, F (a ++ b) = F a ++ F b)
    (c : Chart) (ign : Bool) (m : Micro) :
    F (microLog c ign m) =
      m.exited.flatMap (fun n => F (exitLog ign m.event (c.stateD n))) ++
      (match m.transition with
       | some t => F (transLog ign m.event t)
       | none => []) ++
      m.entered.flatMap (fun n => F (enterLog ign m.event (c.stateD n))) ++
      m.sent.flatMap (fun s => F (sentLog s)) := by
  simp only [microLog, happ, hom_flatMap F hnil happ]
  cases m.transition
  · rw [hnil]
  · rfl

/-! ### code fragments only -/

theorem exec_microLog (c : Chart) (ign : Bool) (m : Micro) :
    (microLog c ign m).filter Effect.isExec = replayMicro m := by
  have hc : ∀ k o i e r, Effect.isExec (.cond k o i e r) = false := fun _ _ _ _ _ => rfl
  have hs : ∀ s, (sentLog s).filter Effect.isExec = [] := fun s => by
    cases s with
    | notify e => rfl
    | «internal» e => by_cases h : e.hasDelay = true <;> simp [sentLog, h]
  rw [hom_microLog _ rfl List.filter_append]
  cases ht : m.transition <;>
    simp [replayMicro, List.map_eq_flatMap, exitLog, enterLog, transLog, List.filter_cons, filter_contractLog _ hc,
      hs, stateD_name, ht]

theorem exec_finishLog (c : Chart) (ign : Bool) (cfg : List Name) (ev : Option Event) :
    (finishLog c ign cfg ev).filter Effect.isExec = [] := by
  have hc : ∀ k o i e r, Effect.isExec (.cond k o i e r) = false := fun _ _ _ _ _ => rfl
  unfold finishLog
  rw [List.filter_append, List.filter_flatMap]
  simp [filter_contractLog _ hc]

theorem filter_guardLog {σ : Type} (p : Effect → Bool) (hp : ∀ t e r, p (.guard t e r) = false)
    (E : Evaluator σ) (st : IState σ) (ev : Option Event) (calls : List (Trans × Bool)) :
    (guardLog E st ev calls).filter p = [] :=
  List.filter_eq_nil_iff.mpr fun x hx => by
    obtain ⟨c, _, rfl⟩ := List.mem_map.mp hx
    simp [hp]

theorem filter_planGuards {σ ω : Type} (env : Env σ ω) (p : Effect → Bool)
    (hp : ∀ t e r, p (.guard t e r) = false) (b : Bool) (st : IState σ) :
    (planGuards env b st).filter p = [] := by
  unfold planGuards
  split
  · exact filter_guardLog p hp _ _ _ _
  · rfl

theorem exec_planGuards {σ ω : Type} (env : Env σ ω) (b : Bool) (st : IState σ) :
    (planGuards env b st).filter Effect.isExec = [] :=
  filter_planGuards env _ (fun _ _ _ => rfl) b st

/-! ### meta-events only -/

def metaOfEffects (l : List Effect) : List Event :=
  l.filterMap (fun e => match e with | .metaEv m => some m | _ => none)

@[simp] theorem metaOf_nil : metaOfEffects [] = [] := rfl
@[simp] theorem metaOf_cons_meta (m : Event) (l : List Effect) : metaOfEffects (.metaEv m :: l) = m :: metaOfEffects l := rfl
@[simp] theorem metaOf_cons_onExit (n : Name) (l : List Effect) : metaOfEffects (.onExit n :: l) = metaOfEffects l := rfl
@[simp] theorem metaOf_cons_onEntry (n : Name) (l : List Effect) : metaOfEffects (.onEntry n :: l) = metaOfEffects l := rfl
@[simp] theorem metaOf_cons_action (t : Nat) (e : Option Event) (l : List Effect) :
    metaOfEffects (.action t e :: l) = metaOfEffects l := rfl
@[simp] theorem metaOf_cons_cond (k : CondKind) (o : ObjId) (i : Nat) (e : Option Event) (r : Option Bool) (l : List Effect) :
    metaOfEffects (.cond k o i e r :: l) = metaOfEffects l := rfl
@[simp] theorem metaOf_cons_guard (t : Nat) (e : Option Event) (r : Option Bool) (l : List Effect) :
    metaOfEffects (.guard t e r :: l) = metaOfEffects l := rfl

theorem metaOf_append (a b : List Effect) : metaOfEffects (a ++ b) = metaOfEffects a ++ metaOfEffects b := by
  simp [metaOfEffects, List.filterMap_append]

theorem metaOf_contractLog (ign : Bool) (kind : CondKind) (obj : Obj) (ev : Option Event) :
    metaOfEffects (contractLog ign kind obj ev) = [] :=
  List.filterMap_eq_nil_iff.mpr fun x hx => by
    obtain ⟨j, rfl⟩ := mem_contractLog hx
    rfl

theorem metaOf_microLog (c : Chart) (ign : Bool) (m : Micro) :
    metaOfEffects (microLog c ign m) = metaMicro m := by
  have hs : ∀ s, metaOfEffects (sentLog s) = sentMeta s := fun s => by
    cases s with
    | notify e => rfl
    | «internal» e => by_cases h : e.hasDelay = true <;> simp [sentLog, sentMeta, h]
  rw [hom_microLog _ rfl metaOf_append]
  cases ht : m.transition <;>
    simp [metaMicro, List.map_eq_flatMap, exitLog, enterLog, transLog, metaOf_append, metaOf_contractLog, hs,
      stateD_name, ht]

theorem metaOf_finishLog (c : Chart) (ign : Bool) (cfg : List Name) (ev : Option Event) :
    metaOfEffects (finishLog c ign cfg ev) = [metaEnded] := by
  unfold finishLog
  rw [metaOf_append, hom_flatMap _ rfl metaOf_append]
  simp [metaOf_contractLog]

theorem metaOf_planGuards {σ ω : Type} (env : Env σ ω) (b : Bool) (st : IState σ) :
    metaOfEffects (planGuards env b st) = [] := by
  unfold planGuards guardLog
  split
  · exact List.filterMap_eq_nil_iff.mpr fun x hx => by
      obtain ⟨c, _, rfl⟩ := List.mem_map.mp hx
      rfl
  · rfl

/-! ### code fragments and contract evaluations (C08) -/

def Effect.isPoint (e : Effect) : Bool := e.isExec || e.isCond

@[simp] theorem isPoint_onExit (n : Name) : (Effect.onExit n).isPoint = true := rfl
@[simp] theorem isPoint_onEntry (n : Name) : (Effect.onEntry n).isPoint = true := rfl
@[simp] theorem isPoint_action (t : Nat) (e : Option Event) : (Effect.action t e).isPoint = true := rfl
@[simp] theorem isPoint_meta (e : Event) : (Effect.metaEv e).isPoint = false := rfl
@[simp] theorem isPoint_cond (k : CondKind) (o : ObjId) (i : Nat) (e : Option Event) (r : Option Bool) :
    (Effect.cond k o i e r).isPoint = true := rfl
@[simp] theorem isPoint_guard (t : Nat) (e : Option Event) (r : Option Bool) : (Effect.guard t e r).isPoint = false := rfl

theorem point_contractLog (kind : CondKind) (obj : Obj) (ev : Option Event) :
    (contractLog false kind obj ev).filter Effect.isPoint = condsLogFrom kind obj ev 0 (obj.conds kind) :=
  List.filter_eq_self.mpr fun x hx => by
    obtain ⟨j, rfl⟩ := mem_condsLogFrom _ _ hx
    rfl

theorem point_microLog (c : Chart) (m : Micro) :
    (microLog c false m).filter Effect.isPoint = pointsMicro c m := by
  have hs : ∀ s, (sentLog s).filter Effect.isPoint = [] := fun s => by
    cases s with
    | notify e => rfl
    | «internal» e => by_cases h : e.hasDelay = true <;> simp [sentLog, h]
  rw [hom_microLog _ rfl List.filter_append]
  cases ht : m.transition <;>
    simp [pointsMicro, exitLog, enterLog, transLog, List.filter_cons, point_contractLog, hs, stateD_name,
      Obj.conds, ht]

theorem point_finishLog (c : Chart) (cfg : List Name) (ev : Option Event) :
    (finishLog c false cfg ev).filter Effect.isPoint = pointsEnd c cfg ev := by
  unfold finishLog pointsEnd
  rw [List.filter_append, List.filter_flatMap]
  simp [point_contractLog, Obj.conds]

theorem point_planGuards {σ ω : Type} (env : Env σ ω) (b : Bool) (st : IState σ) :
    (planGuards env b st).filter Effect.isPoint = [] :=
  filter_planGuards env _ (fun _ _ _ => rfl) b st

end Sismic
