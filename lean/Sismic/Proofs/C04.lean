import Sismic.Proofs.ErrSpec
import Sismic.Proofs.OkSpec
/-!
# Sismic.Proofs.C04 — when `_sort_transitions` raises, nothing has happened but the guard evaluations
-/
namespace Sismic
open M

variable {σ ω : Type} (env : Env σ ω)

def NotPlanErr (e : Err) (_ : RS σ ω) : Prop := e ≠ .nonDeterminism ∧ e ≠ .conflicting

theorem notPlanErr_raises (hd : ListenerErrs env) : Raises env (NotPlanErr : Err → RS σ ω → Prop) :=
  raises_of_class env hd _
    (fun e he _ => by cases e <;> simp [Err.plain] at he <;> exact ⟨by simp, by simp⟩)
    (fun e he _ => by cases e <;> simp [Err.fromListener] at he <;> exact ⟨by simp, by simp⟩)
    fun kind obj ev => ⟨fun rs e rs' h => by
      obtain ⟨_, _, _, _, hc⟩ := evalContract_error env kind obj ev rs rs' e h
      rcases hc with ⟨_, rfl⟩ | ⟨_, c, rfl⟩
      · exact ⟨by simp, by simp⟩
      · cases kind <;> exact ⟨by simp [CondKind.err], by simp [CondKind.err]⟩⟩

theorem logGuards_error (st : IState σ) (ev : Option Event) : ∀ (calls : List (Trans × Bool)) (rs rs' : RS σ ω) (e : Err),
    logGuards env st ev calls rs = (.error e, rs') → e = .codeError
  | [], rs, rs', e, h => by simp [logGuards, M.pure] at h
  | (t, exposed) :: rest, rs, rs', e, h => by
    unfold logGuards at h
    rcases bind_error.mp h with h | ⟨a, r1, h1, h⟩
    · simp [M.emit] at h
    · cases hg : env.E.guard st t (if exposed then ev else none) with
      | none => simp only [hg, throw_error] at h; exact h.1.symm
      | some b => simp only [hg] at h; exact logGuards_error st ev rest _ _ _ h

/-- **Nothing happens.**  If `execute_once` raises `NonDeterminismError` or
    `ConflictingTransitionsError`, then — apart from the step time having been sampled, the
    list of events sent during the step having been reset, and the external queue holding what the
    listeners of `step started` queued — the interpreter is exactly as before: configuration, history
    memory, context, internal queue, entry/idle times; and all that was logged is
    `step started` followed by guard evaluations: no code ran, no contract was evaluated, no
    event was consumed, nothing was entered or exited. -/
theorem nothing_happens (hd : ListenerErrs env) (clock : Int) (rs rs' : RS σ ω) (e : Err)
    (h : executeOnce env clock rs = (.error e, rs')) (he : e = .nonDeterminism ∨ e = .conflicting) :
    (∃ q, rs'.st = { rs.st with time := clock, sentEvents := [], extQ := q }) ∧
    ∃ calls st1, rs'.eff = rs.eff ++ .metaEv (metaStarted clock) :: guardLog env.E st1 (peekEvent st1) calls := by
  rw [executeOnce_eq] at h
  unfold stepTail at h
  have HN := notPlanErr_raises env hd
  -- whatever raises only other exceptions did not raise `e`
  have no : ∀ {α : Type} {m : M σ ω α}, ErrSpec NotPlanErr m → ∀ r r', m r ≠ (.error e, r') := fun hm r r' h' => by
    have := hm.spec _ _ _ h'
    rcases he with rfl | rfl
    · exact this.1 rfl
    · exact this.2 rfl
  rcases bind_error.mp h with h | ⟨a1, r1, h1, h⟩
  · exact absurd h (no (HN.raise _) _ _)
  rcases bind_error.mp h with h | ⟨computed, r2, h2, h⟩
  · -- the error comes out of `_compute_steps`; after `step started` only the external queue may differ
    obtain ⟨q, hq⟩ := Rel.of_eq h1 (extq_raiseMeta env _)
    have e1 : r1.eff = rs.eff ++ [.metaEv (metaStarted clock)] := by
      have := raiseMeta_eff env (metaStarted clock) { rs with st := { rs.st with time := clock, sentEvents := [] } }
      rwa [show raiseMeta env (metaStarted clock) _ = _ from h1] at this
    rw [computeSteps_def] at h
    rcases bind_error.mp h with h | ⟨st, q1, g1, h⟩
    · exact nomatch h
    obtain ⟨rfl, rfl⟩ := get_ok.mp g1
    by_cases hi : (!r1.st.initialized) = true
    · rw [if_pos hi] at h
      rcases bind_error.mp h with h | ⟨_, _, _, h⟩ <;> exact nomatch h
    · rw [if_neg hi] at h
      rcases bind_error.mp h with h | ⟨a, q2, g2, h⟩
      · have := logGuards_error env _ _ _ _ _ _ h
        rcases he with rfl | rfl <;> cases this
      · -- only guards were evaluated since; the plan is returned or raised without touching anything
        have eg := logGuards_ok env _ _ _ r1 q2 a g2
        subst eg
        have hsame : rs' = _ := Rel.of_eq h (R := fun a b => b = a) (by
          cases planOf env.chart env.E r1.st with
          | ok l => exact fun _ => rfl
          | error e => cases e <;> exact fun _ => rfl)
        subst hsame
        exact ⟨⟨q, hq⟩, _, r1.st, by rw [e1, List.append_assoc]; rfl⟩
  · exact absurd h (no (ErrSpec.bind (walk_runSteps HN.toWalk HN.consume computed) fun ms =>
      walk_finishStep HN.toWalk ms) _ _)

end Sismic
