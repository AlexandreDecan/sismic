import Sismic.Proofs.SelectPerm
import Sismic.Proofs.Walk2
/-!
# Sismic.Proofs.Equiv — C07: two interpreters whose statecharts differ in declaration order only
run in lock-step (relational Hoare logic `SimB`, both outcomes)

Proved here: the rules of `SimB` and the steps that look at the order of a list (listeners' queued
events, history bookkeeping over the children, guard evaluations and the selection, the
stabilisation step); the rest of `execute_once` is the walk `Walk₂` of `Proofs/Walk2.lean`.
-/
namespace Sismic
open M

variable {σ ω : Type}

/-- two history memories with the same content (the order of their entries may differ) -/
def MemEq (m m' : List (Name × List Name)) : Prop :=
  ∀ k, m.find? (fun p => p.1 == k) = m'.find? (fun p => p.1 == k)

/-- same interpreter state, same outside world; the memories agree as maps; logs are not compared
    (guards may have been evaluated in another order) -/
def Rel (rs₁ rs₂ : RS σ ω) : Prop :=
  ∃ m e, rs₂ = { rs₁ with st := { rs₁.st with memory := m }, eff := e } ∧ MemEq rs₁.st.memory m

def StM (s₁ s₂ : IState σ) : Prop := ∃ m, s₂ = { s₁ with memory := m } ∧ MemEq s₁.memory m

def SimB {α : Type} (Rv : α → α → Prop) (f₁ f₂ : M σ ω α) : Prop :=
  ∀ rs₁ rs₂, Rel rs₁ rs₂ →
    match f₁ rs₁, f₂ rs₂ with
    | (.ok a₁, r₁), (.ok a₂, r₂) => Rv a₁ a₂ ∧ Rel r₁ r₂
    | (.error e₁, _), (.error e₂, _) => e₁ = e₂
    | _, _ => False

theorem SimB.pure {α} (a : α) : SimB Eq (M.pure a : M σ ω α) (M.pure a) := fun _ _ h => ⟨rfl, h⟩

theorem SimB.throw {α} {Rv : α → α → Prop} (e : Err) : SimB Rv (M.throw e : M σ ω α) (M.throw e) :=
  fun _ _ _ => rfl

theorem SimB.bind {α β} {Rv : α → α → Prop} {Rw : β → β → Prop} {f₁ f₂ : M σ ω α} {g₁ g₂ : α → M σ ω β}
    (hf : SimB Rv f₁ f₂) (hg : ∀ a₁ a₂, Rv a₁ a₂ → SimB Rw (g₁ a₁) (g₂ a₂)) :
    SimB Rw (M.bind f₁ g₁) (M.bind f₂ g₂) := by
  intro rs₁ rs₂ hr
  have h1 := hf rs₁ rs₂ hr
  unfold M.bind
  revert h1
  rcases f₁ rs₁ with ⟨_ | a₁, r₁⟩ <;> rcases f₂ rs₂ with ⟨_ | a₂, r₂⟩
  · exact id
  · exact False.elim
  · exact False.elim
  · exact fun h1 => hg _ _ h1.1 r₁ r₂ h1.2

theorem SimB.bindE {α β} {Rw : β → β → Prop} {f₁ f₂ : M σ ω α} {g₁ g₂ : α → M σ ω β}
    (hf : SimB Eq f₁ f₂) (hg : ∀ a, SimB Rw (g₁ a) (g₂ a)) : SimB Rw (M.bind f₁ g₁) (M.bind f₂ g₂) :=
  SimB.bind hf (fun a₁ a₂ e => e ▸ hg a₁)

theorem SimB.of_outcome {f₁ f₂ : M σ ω Unit}
    (h : ∀ rs₁ rs₂, Rel rs₁ rs₂ → (f₂ rs₂).1 = (f₁ rs₁).1 ∧ ((f₁ rs₁).1 = .ok () → Rel (f₁ rs₁).2 (f₂ rs₂).2)) :
    SimB Eq f₁ f₂ := by
  intro rs₁ rs₂ hr
  obtain ⟨h1, h2⟩ := h rs₁ rs₂ hr
  revert h1 h2
  rcases f₁ rs₁ with ⟨_ | ⟨⟩, r₁⟩ <;> rcases f₂ rs₂ with ⟨_ | ⟨⟩, r₂⟩ <;> intro h1 h2
  · exact (Except.error.inj h1).symm
  · cases h1
  · cases h1
  · exact ⟨rfl, h2 rfl⟩

theorem SimB.get : SimB StM (M.get : M σ ω _) M.get := by
  intro rs₁ rs₂ hr
  obtain ⟨m, e, rfl, hm⟩ := hr
  exact ⟨⟨m, rfl, hm⟩, m, e, rfl, hm⟩

theorem SimB.emit (e₁ e₂ : Effect) : SimB Eq (M.emit e₁ : M σ ω Unit) (M.emit e₂) := by
  intro rs₁ rs₂ hr
  obtain ⟨m, e, rfl, hm⟩ := hr
  exact ⟨rfl, m, _, rfl, hm⟩

theorem SimB.modify' (f : IState σ → IState σ)
    (hf : ∀ s m, f { s with memory := m } = { f s with memory := m }) :
    SimB Eq (M.modify f : M σ ω Unit) (M.modify f) := by
  intro rs₁ rs₂ hr
  obtain ⟨m, e, rfl, hm⟩ := hr
  have hc : (f rs₁.st).memory = rs₁.st.memory := by
    have h := congrArg IState.memory (hf rs₁.st rs₁.st.memory); exact h
  refine ⟨rfl, m, e, ?_, by rw [hc]; exact hm⟩
  show ({ rs₁ with st := f { rs₁.st with memory := m }, eff := e } : RS σ ω) = _
  rw [hf]

structure MemBlind (E : Evaluator σ) : Prop where
  guard : ∀ (s : IState σ) m, E.guard { s with memory := m } = E.guard s
  cond : ∀ (s : IState σ) m, E.cond { s with memory := m } = E.cond s
  exec : ∀ (s : IState σ) m, E.exec { s with memory := m } = E.exec s

structure EnvPerm (env env' : Env σ ω) : Prop where
  chart : ChartPerm env.chart env'.chart
  E : env'.E = env.E
  ignoreContract : env'.ignoreContract = env.ignoreContract
  deliver : env'.deliver = env.deliver
  stabFuel : env'.stabFuel = env.stabFuel

variable {env env' : Env σ ω}

theorem simb_callListener (h : EnvPerm env env') (m : Event) (l : Nat) :
    SimB Eq (callListener env m l) (callListener env' m l) := by
  intro rs₁ rs₂ hr
  obtain ⟨mm, e, rfl, hm⟩ := hr
  rw [callListener_eq, callListener_eq, h.deliver]
  generalize env.deliver l m rs₁.st.time rs₁.world = D
  obtain ⟨res, w, qs⟩ := D
  cases res with
  | error err => rfl
  | ok u => exact ⟨rfl, mm, e, rfl, hm⟩

theorem simb_evalConds (h : EnvPerm env env') (hE : MemBlind env.E) (kind : CondKind) (obj : Obj) (ev : Option Event) :
    ∀ (codes : List Code) (i : Nat), SimB Eq (evalConds env kind obj ev i codes) (evalConds env' kind obj ev i codes)
  | [], _ => SimB.pure ()
  | code :: rest, i => by
    unfold evalConds
    apply SimB.bind SimB.get
    rintro s₁ s₂ ⟨mm, rfl, _⟩
    rw [h.E, hE.cond s₁ mm]
    apply SimB.bindE (SimB.emit _ _); intro _
    cases env.E.cond s₁ kind obj code ev with
    | none => exact SimB.throw _
    | some b => cases b
                · exact SimB.throw _
                · exact simb_evalConds h hE kind obj ev rest (i + 1)

theorem simb_evalContract (h : EnvPerm env env') (hE : MemBlind env.E) (kind : CondKind) (obj : Obj) (ev : Option Event) :
    SimB Eq (evalContract env kind obj ev) (evalContract env' kind obj ev) := by
  unfold evalContract
  rw [h.ignoreContract, h.E]
  apply rel_ite _ (SimB.pure ())
  exact SimB.bindE (rel_ite _ (SimB.modify' _ (fun _ _ => rfl)) (SimB.pure ()))
    (fun _ => simb_evalConds h hE kind obj ev _ 0)

theorem simb_runCode (h : EnvPerm env env') (hE : MemBlind env.E) (k : ExecKind) (ev : Option Event) :
    SimB Eq (runCode env k ev) (runCode env' k ev) := by
  unfold runCode
  apply SimB.bind SimB.get
  rintro s₁ s₂ ⟨mm, rfl, _⟩
  rw [h.E, hE.exec s₁ mm]
  apply SimB.bindE (SimB.modify' _ (fun _ _ => rfl)); intro _
  split
  · exact SimB.pure _
  · exact SimB.throw _

theorem saveMem_memEq {c c' : Chart} (h : ChartPerm c c') (hw : WFChart c) (cfg0 : List Name) (s : StateDef)
    {m m' : List (Name × List Name)} (hm : MemEq m m') {rest rest' : List Name} (hp : rest'.Perm rest) :
    MemEq (saveMem c cfg0 s m rest) (saveMem c' cfg0 s m' rest') := by
  intro k
  show memGet (saveMem c cfg0 s m rest) k = memGet (saveMem c' cfg0 s m' rest') k
  by_cases hin : k ∈ rest
  · by_cases hhit : ∃ a, memoryOf c cfg0 s k = .ok (some a)
    · obtain ⟨a, hmo⟩ := hhit
      rw [saveMem_hit c cfg0 s k a hmo rest m hin,
        saveMem_hit c' cfg0 s k a (by rw [h.memoryOf hw, hmo]) rest' m' (hp.mem_iff.mpr hin)]
    · have hk : ∀ a, memoryOf c cfg0 s k ≠ .ok (some a) := fun a e => hhit ⟨a, e⟩
      rw [saveMem_miss c cfg0 s k hk rest m, saveMem_miss c' cfg0 s k (by rw [h.memoryOf hw]; exact hk) rest' m']
      exact hm k
  · rw [saveMem_other c cfg0 s k rest m hin,
      saveMem_other c' cfg0 s k rest' m' (fun e => hin (hp.mem_iff.mp e))]
    exact hm k

theorem saveMemory_spec (env : Env σ ω) (cfg0 : List Name) (s : StateDef) :
    ∀ (rest : List Name) (rs : RS σ ω), (∀ ch ∈ rest, env.chart.hasState ch = true) →
      (saveMemory env cfg0 s rest rs).1 =
        (bif rest.all (fun ch => (memoryOf env.chart cfg0 s ch).isOk) then .ok () else .error .assertion) ∧
      (rest.all (fun ch => (memoryOf env.chart cfg0 s ch).isOk) = true →
        (saveMemory env cfg0 s rest rs).2 =
          { rs with st := { rs.st with memory := saveMem env.chart cfg0 s rs.st.memory rest } })
  | [], rs, _ => ⟨rfl, fun _ => rfl⟩
  | ch :: rest, rs, hst => by
    have ih := fun rs => saveMemory_spec env cfg0 s rest rs (fun x hx => hst x (List.mem_cons_of_mem _ hx))
    simp only [saveMemory, saveMem, List.all_cons]
    -- (`bif` in the statement: the `Decidable` instance of an `if` would mention this term)
    cases hm : memoryOf env.chart cfg0 s ch with
    | error e =>
      rcases memoryOf_error hm with rfl | ⟨rfl, hk⟩
      · exact ⟨rfl, fun hh => nomatch hh⟩
      · obtain ⟨k, hk'⟩ := kindOf_some_of_hasState env.chart ch (hst ch List.mem_cons_self)
        rw [hk] at hk'; cases hk'
    | ok o =>
      cases o with
      | none => exact ih rs
      | some a => simp only [M.bind, M.modify]; exact ih _

theorem simb_saveMemory (h : EnvPerm env env') (hw : WFChart env.chart) (cfg0 : List Name) (s : StateDef) :
    SimB Eq (saveMemory env cfg0 s (env.chart.childrenFor s.name))
      (saveMemory env' cfg0 s (env'.chart.childrenFor s.name)) := by
  apply SimB.of_outcome
  rintro rs₁ _ ⟨mm, e, rfl, hm⟩
  have hst : ∀ ch ∈ env.chart.childrenFor s.name, env.chart.hasState ch = true :=
    fun ch hch => (hw.parentState ch s.name ((hw.children s.name ch).mp hch)).1
  have hp := h.chart.children s.name
  obtain ⟨a1, a2⟩ := saveMemory_spec env cfg0 s (env.chart.childrenFor s.name) rs₁ hst
  obtain ⟨b1, b2⟩ := saveMemory_spec env' cfg0 s (env'.chart.childrenFor s.name)
    { rs₁ with st := { rs₁.st with memory := mm }, eff := e }
    (fun ch hch => (h.chart.hasState ch).trans (hst ch (hp.mem_iff.mp hch)))
  rw [funext (h.chart.memoryOf hw cfg0 s), hp.all_eq] at b1 b2
  refine ⟨b1.trans a1.symm, fun hok => ?_⟩
  have hall : (env.chart.childrenFor s.name).all (fun ch => (memoryOf env.chart cfg0 s ch).isOk) = true := by
    cases hall : (env.chart.childrenFor s.name).all (fun ch => (memoryOf env.chart cfg0 s ch).isOk)
    · rw [a1, hall] at hok; cases hok
    · rfl
  rw [a2 hall, b2 hall]
  exact ⟨_, e, rfl, saveMem_memEq h.chart hw cfg0 s hm hp⟩

theorem leafStep_memEq (c : Chart) {m m' : List (Name × List Name)} (hm : MemEq m m') (leaf : Name) :
    leafStep c m' leaf = leafStep c m leaf := by
  simp only [leafStep, hm leaf]

theorem stabilizationStep_equiv {c c' : Chart} (h : ChartPerm c c') (hw : WFChart c)
    {m m' : List (Name × List Name)} (hm : MemEq m m') (cfg : List Name) :
    stabilizationStep c' m' cfg = stabilizationStep c m cfg := by
  rw [h.stabilizationStep hw]
  simp only [stabilizationStep]
  have : leafStep c m' = leafStep c m := funext (leafStep_memEq c hm)
  rw [this]

theorem logGuards_spec (env : Env σ ω) (st : IState σ) (ev : Option Event) :
    ∀ (calls : List (Trans × Bool)) (rs : RS σ ω),
      (logGuards env st ev calls rs).1 =
        (if calls.all (fun p => (env.E.guard st p.1 (if p.2 then ev else none)).isSome) then .ok () else .error .codeError) ∧
      (logGuards env st ev calls rs).2.st = rs.st ∧ (logGuards env st ev calls rs).2.world = rs.world
  | [], rs => ⟨rfl, rfl, rfl⟩
  | (t, exposed) :: rest, rs => by
    obtain ⟨g, hg⟩ : ∃ g, env.E.guard st t (if exposed then ev else none) = g := ⟨_, rfl⟩
    simp only [logGuards, M.bind, M.emit, List.all_cons, hg]
    cases g with
    | none => exact ⟨by simp [M.throw], rfl, rfl⟩
    | some b =>
      simp only [Option.isSome_some, Bool.true_and]
      exact logGuards_spec env st ev rest _

theorem simb_logGuards (h : EnvPerm env env') (hE : MemBlind env.E) (st₁ : IState σ) (mm : List (Name × List Name))
    (ev : Option Event) {calls calls' : List (Trans × Bool)} (hp : calls'.Perm calls) :
    SimB Eq (logGuards env st₁ ev calls) (logGuards env' { st₁ with memory := mm } ev calls') := by
  apply SimB.of_outcome
  rintro rs₁ _ ⟨m, e, rfl, hm⟩
  obtain ⟨a1, a2, a3⟩ := logGuards_spec env st₁ ev calls rs₁
  obtain ⟨b1, b2, b3⟩ := logGuards_spec env' { st₁ with memory := mm } ev calls'
    { rs₁ with st := { rs₁.st with memory := m }, eff := e }
  rw [h.E, hE.guard st₁ mm, hp.all_eq] at b1
  refine ⟨b1.trans a1.symm, fun _ => ?_⟩
  generalize logGuards env st₁ ev calls rs₁ = o₁ at a2 a3
  generalize logGuards env' _ ev calls' _ = o₂ at b2 b3
  obtain ⟨_, s1, w1, f1⟩ := o₁
  obtain ⟨_, s2, w2, f2⟩ := o₂
  cases a2; cases a3; cases b2; cases b3
  exact ⟨m, f2, rfl, hm⟩

theorem createSteps_equiv {c c' : Chart} (h : ChartPerm c c') (hw : WFChart c) (cfg : List Name)
    (ev : Option Event) (ts : List Trans) : createSteps c' cfg ev ts = createSteps c cfg ev ts := by
  simp only [createSteps]
  apply List.map_congr_left
  intro t _
  exact h.createStep hw cfg ev t

/-- **the plan of a macro step does not depend on the declaration order** -/
theorem planOf_perm {c c' : Chart} (h : ChartPerm c c') (hw : WFChart c) (E : Evaluator σ) (st : IState σ) :
    planOf c' E st = planOf c E st := by
  obtain ⟨hsel, _⟩ := selectTransitions_perm h hw.tree st.config ((peekEvent st).map (fun e => e.name))
    (guardOk E st (peekEvent st))
  unfold planOf
  simp only
  rw [hsel.isEmpty_eq, h.sortTransitions hw hsel]
  apply rel_ite (R := Eq) _ rfl
  cases sortTransitions c _ with
  | error e => rfl
  | ok ts => exact congrArg Except.ok (createSteps_equiv h hw _ _ ts)

theorem simB_walk (h : EnvPerm env env') (hE : MemBlind env.E) (hw : WFChart env.chart) :
    Walk₂ env env' StM (@SimB σ ω) where
  pure := SimB.pure
  throw := SimB.throw
  bind := SimB.bind
  get := SimB.get
  agree := by rintro s₁ s₂ ⟨m, rfl, _⟩; exact ⟨rfl, rfl, rfl, rfl, rfl, rfl⟩
  modify f hf := SimB.modify' f hf.setMemory
  emit e _ := SimB.emit e e
  listener := simb_callListener h
  contract := simb_evalContract h hE
  stateFor := h.chart.stateFor
  runCode := simb_runCode h hE
  saveMemory := simb_saveMemory h hw
  root := h.chart.root
  guards := by
    rintro s₁ s₂ ⟨mm, rfl, _⟩
    apply simb_logGuards h hE s₁ mm
    rw [h.E, selCalls_congr _ (hE.guard s₁ mm) rfl rfl]
    exact (selectTransitions_perm h.chart hw.tree _ _ _).2
  plan := by
    rintro s₁ s₂ ⟨mm, rfl, _⟩
    rw [planOf_perm h.chart hw, h.E, planOf_congr _ (hE.guard s₁ mm) rfl rfl]
  stab := by rintro s₁ s₂ ⟨m, rfl, hm⟩; exact stabilizationStep_equiv h.chart hw hm _
  sortConfig cfg := by simp only [Chart.sortConfig, h.chart.leDepthName]
  stabFuel := h.stabFuel

theorem simb_executeOnce (h : EnvPerm env env') (hE : MemBlind env.E) (hw : WFChart env.chart) (clock : Int) :
    SimB Eq (executeOnce env clock) (executeOnce env' clock) :=
  (simB_walk h hE hw).executeOnce clock

theorem SimB.cases {α} {Rv : α → α → Prop} {f₁ f₂ : M σ ω α} (h : SimB Rv f₁ f₂) (rs₁ rs₂ : RS σ ω)
    (hr : Rel rs₁ rs₂) :
    (∃ a₁ a₂ r₁ r₂, f₁ rs₁ = (.ok a₁, r₁) ∧ f₂ rs₂ = (.ok a₂, r₂) ∧ Rv a₁ a₂ ∧ Rel r₁ r₂) ∨
    (∃ e r₁ r₂, f₁ rs₁ = (.error e, r₁) ∧ f₂ rs₂ = (.error e, r₂)) := by
  have := h rs₁ rs₂ hr
  revert this
  rcases f₁ rs₁ with ⟨a | a, r₁⟩ <;> rcases f₂ rs₂ with ⟨b | b, r₂⟩ <;> intro this
  · cases this; exact Or.inr ⟨a, r₁, r₂, rfl, rfl⟩
  · exact this.elim
  · exact this.elim
  · exact Or.inl ⟨a, b, r₁, r₂, rfl, rfl, this.1, this.2⟩

end Sismic
