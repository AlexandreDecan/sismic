import Sismic.Proofs.EditInv
/-!
# Sismic.Proofs.EditRefs — editing never leaves a dangling `initial` / `memory`

`RefsOK`: the `initial` of every compound state and the `memory` of every history state name a
state of the statechart.  `remove_state` (with its recursion), `move_state`, `rename_state` and
the three transition operations keep it — whether they succeed or raise — and `add_state` keeps
it for the states that were there (the new state brings its own references).
-/
namespace Sismic
namespace Chart

/-- no `initial` of a compound state and no `memory` of a history state dangles -/
def RefsOK (c : Chart) : Prop :=
  ∀ s ∈ c.states, (s.kind = .compound → ∀ i, s.initial = some i → c.hasState i = true) ∧
    (s.kind.isHistory = true → ∀ m, s.memory = some m → c.hasState m = true)

/-- the references of one state, for `add_state` -/
def StateRefsIn (c : Chart) (s : StateDef) : Prop :=
  (s.kind = .compound → ∀ i, s.initial = some i → c.hasState i = true ∨ i = s.name) ∧
    (s.kind.isHistory = true → ∀ m, s.memory = some m → c.hasState m = true ∨ m = s.name)

theorem removeLeaf_hasState (c : Chart) (name n : Name) (hn : n ≠ name) :
    (c.removeLeaf name).hasState n = c.hasState n := (removeLeaf_lookup c name n hn).2

theorem removeLeaf_refsOK (c : Chart) (name : Name) (hc : c.RefsOK) : (c.removeLeaf name).RefsOK := by
  intro s' hs'
  rw [(removeLeaf_fields c name).1, List.mem_filter, List.mem_map] at hs'
  obtain ⟨⟨s, hs, rfl⟩, _⟩ := hs'
  obtain ⟨h1, h2⟩ := hc s hs
  rw [unref_kind]
  constructor
  · intro hk i hi
    obtain ⟨e1, e2⟩ := unref_initial name s hk i hi
    rw [removeLeaf_hasState c name i e2]
    exact h1 hk i e1
  · intro hk m hm
    obtain ⟨e1, e2⟩ := unref_memory name s hk m hm
    rw [removeLeaf_hasState c name m e2]
    exact h2 hk m e1

theorem removeStateF_refsOK (f : Nat) (c : Chart) (n : Name) (hc : c.RefsOK) : (removeStateF f c n).2.RefsOK :=
  removeStateF_preserves removeLeaf_refsOK f c n hc

theorem moveState_states (c : Chart) (a b : Name) (h : (c.moveState a b).1 = .ok ()) :
    ∃ st, c.stateFor a = some st ∧ (c.moveState a b).2.states = c.states.map (mvref a st.kind.isHistory) := by
  obtain ⟨he, ha, _⟩ := moveState_ok c a b h
  obtain ⟨st, hst⟩ := (hasState_iff_stateFor c a).mp ha
  rw [he]
  exact ⟨st, hst, by unfold moved; rw [hst]; rfl⟩

theorem mvref_initial (name : Name) (hist : Bool) (s : StateDef) (hk : s.kind = .compound) (i : Name)
    (h : (mvref name hist s).initial = some i) : s.initial = some i ∧ i ≠ name := by
  unfold mvref at h
  split at h
  · exact unref_initial name { s with memory := none } hk i h
  · exact unref_initial name s hk i h

theorem mvref_memory (a : Name) (hist : Bool) (s : StateDef) (hk : s.kind.isHistory = true) (m : Name)
    (h : (mvref a hist s).memory = some m) : s.memory = some m ∧ m ≠ a ∧ ¬(s.name = a ∧ hist = true) := by
  unfold mvref at h
  split at h
  · cases (unref_memory a { s with memory := none } hk m h).1
  · next hc =>
    obtain ⟨h1, h2⟩ := unref_memory a s hk m h
    exact ⟨h1, h2, fun ⟨e1, e2⟩ => hc (by simp [e1, e2])⟩

theorem moveState_refsOK (c : Chart) (a b : Name) (hc : c.RefsOK) (h : (c.moveState a b).1 = .ok ()) :
    (c.moveState a b).2.RefsOK := by
  rw [(moveState_ok c a b h).1]
  generalize (c.stateFor a).any (·.kind.isHistory) = hist
  have hhas := fun n => (owns_mapStates c _ (mvref_name a hist) (mvref_kind a hist) n).2
  intro s' hs'
  obtain ⟨s, hsm, rfl⟩ := List.mem_map.mp hs'
  obtain ⟨h1, h2⟩ := hc s hsm
  rw [mvref_kind]
  exact ⟨fun hk i hi => (hhas i).trans (h1 hk i (mvref_initial a hist s hk i hi).1),
    fun hk m hm => (hhas m).trans (h2 hk m (mvref_memory a hist s hk m hm).1)⟩

theorem renameState_refsOK (c : Chart) (a b : Name) (hc : c.RefsOK) (h : (c.renameState a b).1 = .ok ()) :
    (c.renameState a b).2.RefsOK := by
  by_cases hne : a = b
  · subst hne; rw [rename_same_is_noop]; exact hc
  intro s' hs'
  obtain ⟨s, hsm, hk, hi, hm, _⟩ := mem_renameState_states c a b h hne s' hs'
  obtain ⟨h1, h2⟩ := hc s hsm
  rw [hk, hi, hm]
  constructor
  · intro hkc i hii
    rw [renameState_hasState c a b h hne]
    rcases reref_initial a b s hkc i hii with ⟨_, e⟩ | ⟨e1, e2⟩
    · simp [e]
    · simp [h1 hkc i e1, e2]
  · intro hkh m hmm
    rw [renameState_hasState c a b h hne]
    rcases reref_memory a b s hkh m hmm with ⟨_, e⟩ | ⟨e1, e2⟩
    · simp [e]
    · simp [h2 hkh m e1, e2]

theorem addState_refsOK (c : Chart) (s : StateDef) (p : Option Name) (hc : c.RefsOK) (hs : c.StateRefsIn s)
    (h : (c.addState s p).1 = .ok ()) : (c.addState s p).2.RefsOK := by
  rw [(addState_ok c s p h).1]
  have hhas := added_hasState c s p
  have hst : (addedChart c s p).states = c.states ++ [s] := rfl
  intro s' hs'
  rw [hst, List.mem_append, List.mem_singleton] at hs'
  simp only [hhas, Bool.or_eq_true, beq_iff_eq]
  rcases hs' with hs' | rfl
  · obtain ⟨h1, h2⟩ := hc s' hs'
    exact ⟨fun hk i hi => .inl (h1 hk i hi), fun hk m hm => .inl (h2 hk m hm)⟩
  · exact ⟨fun hk i hi => hs.1 hk i hi, fun hk m hm => hs.2 hk m hm⟩

/-- the states `add_state` is given in this session bring no dangling reference -/
def EditOp.RefsIn (c : Chart) : EditOp → Prop
  | .addState s _ => c.StateRefsIn s
  | _ => True

theorem applyEdit_refsOK (c : Chart) (op : EditOp) (hc : c.RefsOK) (hop : op.RefsIn c) : (c.applyEdit op).2.RefsOK :=
  applyEdit_preserves_dicts c op (fun _ => hc) (fun s p e => addState_refsOK c s p hc (by subst e; exact hop))
    (removeStateF_refsOK _ c · hc) (renameState_refsOK c · · hc) (moveState_refsOK c · · hc)

/-- every `add_state` of the session is given a state whose references exist when it is added -/
def SessionRefsIn (c : Chart) : List EditOp → Prop
  | [] => True
  | op :: ops => op.RefsIn c ∧ SessionRefsIn (c.applyEdit op).2 ops

/-- a Boolean form, for examples -/
def refsOKB (c : Chart) : Bool :=
  c.states.all (fun s =>
    (s.kind != .compound || (match s.initial with | some i => c.hasState i | none => true)) &&
    (!s.kind.isHistory || (match s.memory with | some m => c.hasState m | none => true)))

theorem refsOKB_sound (c : Chart) (h : c.refsOKB = true) : c.RefsOK := by
  intro s hs
  simp only [refsOKB, List.all_eq_true] at h
  have := h s hs
  simp only [Bool.and_eq_true, Bool.or_eq_true, bne_iff_ne, ne_eq, Bool.not_eq_true'] at this
  obtain ⟨h1, h2⟩ := this
  constructor
  · intro hk i hi
    rcases h1 with h1 | h1
    · exact absurd hk h1
    · simpa [hi] using h1
  · intro hk m hm
    rcases h2 with h2 | h2
    · rw [hk] at h2; exact absurd h2 (by simp)
    · simpa [hm] using h2

end Chart
end Sismic
