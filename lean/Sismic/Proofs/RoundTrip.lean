import Sismic.Proofs.Import
/-!
# Sismic.Proofs.RoundTrip — `import ∘ export` on the fields of transitions and states
-/
namespace Sismic

/-- code as `import_from_dict` creates it: stripped, non-empty, nothing but the text -/
def Code.plain (c : Code) : Prop := c = mkCode c.src ∧ pyStrip c.src = c.src ∧ c.src ≠ ""

def strOK (s : String) : Prop := pyStrip s = s ∧ s ≠ ""

theorem get_nil (k : String) : (Data.map []).get? k = none := rfl

theorem get_ite (p : Prop) [Decidable p] (a b : List (String × Data)) (k : String) :
    (Data.map (if p then a else b)).get? k = if p then (Data.map a).get? k else (Data.map b).get? k := by
  split <;> rfl

theorem get_optField_same (k : String) (v : Option String) :
    (Data.map (optField k v)).get? k = (v.filter (· != "")).map Data.str := by
  cases v with
  | none => rfl
  | some s =>
    simp only [optField]
    by_cases h : (s != "") = true
    · simp [h, Data.get?, Option.filter]
    · simp [h, Data.get?, Option.filter]

theorem get_optField_ne (k k' : String) (v : Option String) (h : k ≠ k') :
    (Data.map (optField k v)).get? k' = none := by
  cases v with
  | none => rfl
  | some s =>
    simp only [optField]
    split
    · exact get_single_ne k k' _ h
    · rfl

theorem get_if_ne (c : Prop) [Decidable c] (k k' : String) (v : Data) (h : k ≠ k') :
    (Data.map (if c then [(k, v)] else [])).get? k' = none := by
  split
  · exact get_single_ne k k' _ h
  · rfl

theorem get_exportPriority_ne (p : Int) (k' : String) (h : "priority" ≠ k') :
    (Data.map (exportPriority p)).get? k' = none :=
  get_if_ne _ _ _ _ h

theorem get_exportPriority (p : Int) :
    (Data.map (exportPriority p)).get? "priority" =
      if p != 0 then some (if p == -1 then .str "low" else if p == 1 then .str "high" else .int p) else none := by
  unfold exportPriority
  split
  · exact get_single_same _ _
  · rfl

theorem get_exportContract_ne (pre post inv : List Code) (k' : String) (h : "contract" ≠ k') :
    (Data.map (exportContract pre post inv)).get? k' = none := by
  unfold exportContract
  split
  · rfl
  · exact get_single_ne _ _ _ h

/-! ### contracts -/

theorem contractStep_before (acc : List Code × List Code × List Code) (s : String) (h : s ≠ "") :
    contractStep acc (.map [("before", .str s)]) = .ok (acc.1 ++ [mkCode (pyStrip s)], acc.2.1, acc.2.2) := by
  simp [contractStep, contractPick, Data.get?, Data.truthy, h]

theorem contractStep_after (acc : List Code × List Code × List Code) (s : String) (h : s ≠ "") :
    contractStep acc (.map [("after", .str s)]) = .ok (acc.1, acc.2.1 ++ [mkCode (pyStrip s)], acc.2.2) := by
  simp [contractStep, contractPick, Data.get?, Data.truthy, h]

theorem contractStep_always (acc : List Code × List Code × List Code) (s : String) (h : s ≠ "") :
    contractStep acc (.map [("always", .str s)]) = .ok (acc.1, acc.2.1, acc.2.2 ++ [mkCode (pyStrip s)]) := by
  simp [contractStep, contractPick, Data.get?, Data.truthy, h]

theorem plain_mk (c : Code) (h : c.plain) : mkCode (pyStrip c.src) = c := by
  rw [h.2.1]; exact h.1.symm

theorem contractLoop_append (a b : List Data) (acc : List Code × List Code × List Code) :
    contractLoop (a ++ b) acc = match contractLoop a acc with
      | .error e => .error e
      | .ok acc' => contractLoop b acc' := by
  induction a generalizing acc with
  | nil => rfl
  | cons x xs ih =>
    simp only [List.cons_append, contractLoop]
    cases contractStep acc x with
    | error e => rfl
    | ok acc' => exact ih acc'

theorem contractLoop_pre (l : List Code) (hl : ∀ c ∈ l, c.plain) (acc : List Code × List Code × List Code) :
    contractLoop (l.map (fun c => Data.map [("before", .str c.src)])) acc = .ok (acc.1 ++ l, acc.2.1, acc.2.2) := by
  induction l generalizing acc with
  | nil => simp [contractLoop]
  | cons c cs ih =>
    have hc := hl c List.mem_cons_self
    simp only [List.map_cons, contractLoop, contractStep_before acc c.src hc.2.2]
    rw [ih (fun x hx => hl x (List.mem_cons_of_mem _ hx)), plain_mk c hc]
    simp

theorem contractLoop_post (l : List Code) (hl : ∀ c ∈ l, c.plain) (acc : List Code × List Code × List Code) :
    contractLoop (l.map (fun c => Data.map [("after", .str c.src)])) acc = .ok (acc.1, acc.2.1 ++ l, acc.2.2) := by
  induction l generalizing acc with
  | nil => simp [contractLoop]
  | cons c cs ih =>
    have hc := hl c List.mem_cons_self
    simp only [List.map_cons, contractLoop, contractStep_after acc c.src hc.2.2]
    rw [ih (fun x hx => hl x (List.mem_cons_of_mem _ hx)), plain_mk c hc]
    simp

theorem contractLoop_inv (l : List Code) (hl : ∀ c ∈ l, c.plain) (acc : List Code × List Code × List Code) :
    contractLoop (l.map (fun c => Data.map [("always", .str c.src)])) acc = .ok (acc.1, acc.2.1, acc.2.2 ++ l) := by
  induction l generalizing acc with
  | nil => simp [contractLoop]
  | cons c cs ih =>
    have hc := hl c List.mem_cons_self
    simp only [List.map_cons, contractLoop, contractStep_always acc c.src hc.2.2]
    rw [ih (fun x hx => hl x (List.mem_cons_of_mem _ hx)), plain_mk c hc]
    simp

theorem get_exportContract (pre post inv : List Code) :
    (Data.map (exportContract pre post inv)).get? "contract" =
      if pre.isEmpty && post.isEmpty && inv.isEmpty then none else
      some (.list (pre.map (fun c => Data.map [("before", .str c.src)]) ++
                   post.map (fun c => Data.map [("after", .str c.src)]) ++
                   inv.map (fun c => Data.map [("always", .str c.src)]))) := by
  unfold exportContract
  split
  · rfl
  · exact get_single_same _ _

theorem importContract_of_get (d : Data) (pre post inv : List Code)
    (hg : d.get? "contract" = (Data.map (exportContract pre post inv)).get? "contract")
    (h1 : ∀ c ∈ pre, c.plain) (h2 : ∀ c ∈ post, c.plain) (h3 : ∀ c ∈ inv, c.plain) :
    importContract d = .ok (pre, post, inv) := by
  unfold importContract
  rw [hg, get_exportContract]
  by_cases he : (pre.isEmpty && post.isEmpty && inv.isEmpty) = true
  · rw [if_pos he]
    simp only [Bool.and_eq_true, List.isEmpty_iff] at he
    obtain ⟨⟨rfl, rfl⟩, rfl⟩ := he
    rfl
  · rw [if_neg he]
    simp only
    rw [contractLoop_append, contractLoop_append, contractLoop_pre pre h1]
    simp only
    rw [contractLoop_post post h2]
    simp only
    rw [contractLoop_inv inv h3]
    simp

theorem importContract_export (front back : List (String × Data)) (pre post inv : List Code)
    (hf : (Data.map front).get? "contract" = none) (hb : (Data.map back).get? "contract" = none)
    (h1 : ∀ c ∈ pre, c.plain) (h2 : ∀ c ∈ post, c.plain) (h3 : ∀ c ∈ inv, c.plain) :
    importContract (.map (front ++ exportContract pre post inv ++ back)) = .ok (pre, post, inv) :=
  importContract_of_get _ pre post inv
    (by rw [get_append, get_append, hf, hb, Option.none_or, Option.or_none]) h1 h2 h3

/-! ### transitions -/

theorem getStripped_of_get (d : Data) (k : String) (v : Option String)
    (hg : d.get? k = (v.filter (· != "")).map Data.str) (hv : ∀ s, v = some s → strOK s) :
    getStripped d k = .ok (v.map mkCode) := by
  unfold getStripped
  rw [hg]
  cases v with
  | none => rfl
  | some s =>
    obtain ⟨h1, h2⟩ := hv s rfl
    have : (s != "") = true := by simpa using h2
    simp [Option.filter, this, Data.truthy, h1]

structure Trans.plain (t : Trans) : Prop where
  event : ∀ s, t.event = some s → strOK s
  guard : ∀ c, t.guard = some c → c.plain
  action : ∀ c, t.action = some c → c.plain
  target : ∀ s, t.target = some s → s ≠ ""
  pre : ∀ c ∈ t.pre, c.plain
  post : ∀ c ∈ t.post, c.plain
  inv : ∀ c ∈ t.inv, c.plain

theorem map_mkCode_plain (g : Option Code) (h : ∀ c, g = some c → c.plain) :
    (g.map (·.src)).map mkCode = g := by
  cases g with
  | none => rfl
  | some c => simp only [Option.map_some]; rw [← (h c rfl).1]

theorem strOK_of_plain (g : Option Code) (h : ∀ c, g = some c → c.plain) :
    ∀ s, g.map (·.src) = some s → strOK s := by
  intro s hs
  cases g with
  | none => simp at hs
  | some c => simp at hs; subst hs; exact ⟨(h c rfl).2.1, (h c rfl).2.2⟩

theorem importTransition_export (t : Trans) (h : t.plain) :
    importTransition t.source (exportTransition t) = .ok { t with id := 0 } := by
  obtain ⟨gE, gG, gA, gT, gP, gC⟩ :
      (exportTransition t).get? "event" = (t.event.filter (· != "")).map Data.str ∧
      (exportTransition t).get? "guard" = ((t.guard.map (·.src)).filter (· != "")).map Data.str ∧
      (exportTransition t).get? "action" = ((t.action.map (·.src)).filter (· != "")).map Data.str ∧
      (exportTransition t).get? "target" = (t.target.filter (· != "")).map Data.str ∧
      (exportTransition t).get? "priority" = (Data.map (exportPriority t.priority)).get? "priority" ∧
      (exportTransition t).get? "contract" = (Data.map (exportContract t.pre t.post t.inv)).get? "contract" := by
    refine ⟨?_, ?_, ?_, ?_, ?_, ?_⟩ <;>
      simp only [exportTransition, get_append, get_optField_same, get_optField_ne, get_exportPriority_ne,
        get_exportContract_ne, ne_eq, String.reduceEq, not_false_eq_true, Option.none_or, Option.or_none]
  rw [get_exportPriority] at gP
  have hC := importContract_of_get _ _ _ _ gC h.pre h.post h.inv
  have e1 := getStripped_of_get _ "event" t.event gE h.event
  have e2 := getStripped_of_get _ "guard" (t.guard.map (·.src)) gG (strOK_of_plain _ h.guard)
  have e3 := getStripped_of_get _ "action" (t.action.map (·.src)) gA (strOK_of_plain _ h.action)
  rw [map_mkCode_plain _ h.guard] at e2
  rw [map_mkCode_plain _ h.action] at e3
  obtain ⟨m, hm⟩ : ∃ m, exportTransition t = .map m := ⟨_, rfl⟩
  rw [hm] at gT gP hC e1 e2 e3 ⊢
  have hT : importTarget (.map m) = .ok t.target := by
    unfold importTarget
    rw [gT]
    cases ht : t.target with
    | none => rfl
    | some s =>
      have : (s != "") = true := by simpa using h.target s ht
      simp [Option.filter, this]
  have hP : importPriority (.map m) = .ok t.priority := by
    unfold importPriority
    rw [gP]
    by_cases h0 : t.priority = 0
    · simp [h0]
    · by_cases h1 : t.priority = -1
      · simp [h1]
      · by_cases h2 : t.priority = 1
        · simp [h2]
        · simp [h0, h1, h2]
  have hev : (t.event.map mkCode).map (·.src) = t.event := by cases t.event <;> rfl
  simp only [importTransition, e1, e2, e3, hT, hP, hC, bind, Except.bind, pure, Except.pure, hev]

/-! ### states -/

structure StateDef.plain (c : Chart) (s : StateDef) : Prop where
  onEntry : ∀ x, s.onEntry = some x → x.plain
  onExit : ∀ x, s.onExit = some x → x.plain
  initial : ∀ i, s.initial = some i → i ≠ "" ∧ s.kind = .compound
  memory : ∀ m, s.memory = some m → m ≠ "" ∧ s.kind.isHistory = true
  pre : ∀ x ∈ s.pre, x.plain
  post : ∀ x ∈ s.post, x.plain
  inv : ∀ x ∈ s.inv, x.plain

theorem optNameAt_of_get (d : Data) (k : String) (v : Option String)
    (hg : d.get? k = (v.filter (· != "")).map Data.str) (hv : ∀ s, v = some s → s ≠ "") :
    optNameAt d k = .ok v := by
  unfold optNameAt
  rw [hg]
  cases v with
  | none => rfl
  | some s =>
    have : (s != "") = true := by simpa using hv s rfl
    simp [Option.filter, this]

theorem stripField_of_get (d : Data) (k : String) (g : Option Code)
    (hg : d.get? k = ((g.map (·.src)).filter (· != "")).map Data.str) (hv : ∀ c, g = some c → c.plain) :
    stripField d k = .ok g := by
  unfold stripField
  rw [getStripped_of_get d k (g.map (·.src)) hg (strOK_of_plain g hv), map_mkCode_plain g hv]

theorem truthy_list_map {α} (l : List α) (f : α → Data) (h : l ≠ []) : (Data.list (l.map f)).truthy = true := by
  cases l with
  | nil => exact absurd rfl h
  | cons x xs => rfl

/-! ### the exported state, entry by entry -/

/-- the `type` / `memory` entries `_export_state_to_dict` writes -/
def tySeg (s : StateDef) : List (String × Data) :=
  match s.kind with
  | .shallow => [("type", .str "shallow history")] ++ optField "memory" s.memory
  | .deep => [("type", .str "deep history")] ++ optField "memory" s.memory
  | .final => [("type", .str "final")]
  | _ => []

def tyData : Kind → Option Data
  | .shallow => some (.str "shallow history")
  | .deep => some (.str "deep history")
  | .final => some (.str "final")
  | _ => none

theorem get_tySeg_ne (s : StateDef) (k : String) (h1 : "type" ≠ k) (h2 : "memory" ≠ k) :
    (Data.map (tySeg s)).get? k = none := by
  unfold tySeg
  cases s.kind <;> simp only [get_nil, get_single_ne _ _ _ h1, get_append, get_optField_ne _ _ _ h2, Option.or_none]

theorem get_tySeg_type (s : StateDef) : (Data.map (tySeg s)).get? "type" = tyData s.kind := by
  unfold tySeg tyData
  cases s.kind <;> first | rfl | exact get_cons_same _ _ _

theorem get_tySeg_memory (s : StateDef) : (Data.map (tySeg s)).get? "memory" =
    if s.kind.isHistory then (s.memory.filter (· != "")).map Data.str else none := by
  have h : "type" ≠ "memory" := by decide
  unfold tySeg
  cases s.kind <;> first | rfl | exact (get_cons_ne _ _ _ _ h).trans (get_optField_same _ _)

/-- what the dict exported for state `s` (with the exported children `kids`) holds under each key
    the importer reads -/
structure Exported (c : Chart) (n : Name) (s : StateDef) (D : Data) (kids : List Data) : Prop where
  isMap : ∃ m, D = .map m
  name : D.get? "name" = some (.str s.name)
  type : D.get? "type" = tyData s.kind
  memory : D.get? "memory" = if s.kind.isHistory then (s.memory.filter (· != "")).map Data.str else none
  onEntry : D.get? "on entry" = ((s.onEntry.map (·.src)).filter (· != "")).map Data.str
  onExit : D.get? "on exit" = ((s.onExit.map (·.src)).filter (· != "")).map Data.str
  initial : D.get? "initial" = if s.kind == .compound then (s.initial.filter (· != "")).map Data.str else none
  contract : D.get? "contract" = (Data.map (exportContract s.pre s.post s.inv)).get? "contract"
  transitions : D.get? "transitions" =
    if s.kind.ownsTransitions && !(c.transitionsFrom n).isEmpty then
      some (.list ((c.transitionsFrom n).map exportTransition)) else none
  states : D.get? "states" = if s.kind == .compound then some (.list kids) else none
  parallel : D.get? "parallel states" = if s.kind == .orthogonal then some (.list kids) else none

section Export
variable (c : Chart) (f : Nat) (n : Name) (s : StateDef) (hs : c.stateFor n = some s)
include hs

/-- the exported map, segment by segment: every segment holds the entries of at most two keys -/
theorem exportState_succ :
    exportState c (f+1) n = .map ([("name", .str s.name)] ++ tySeg s ++ optField "on entry" (s.onEntry.map (·.src)) ++
      optField "on exit" (s.onExit.map (·.src)) ++
      (if s.kind == .compound then optField "initial" s.initial else []) ++
      exportContract s.pre s.post s.inv ++
      (if s.kind.ownsTransitions && !(c.transitionsFrom n).isEmpty then
        [("transitions", .list ((c.transitionsFrom n).map exportTransition))] else []) ++
      (if s.kind == .compound then [("states", .list ((c.childrenFor n).map (exportState c f)))]
       else if s.kind == .orthogonal then [("parallel states", .list ((c.childrenFor n).map (exportState c f)))] else [])) := by
  simp only [exportState, hs]; rfl

theorem exportState_fields : Exported c n s (exportState c (f+1) n) ((c.childrenFor n).map (exportState c f)) := by
  rw [exportState_succ c f n s hs]
  refine ⟨⟨_, rfl⟩, ?_, ?_, ?_, ?_, ?_, ?_, ?_, ?_, ?_, ?_⟩ <;>
    simp only [get_append, get_ite, get_single_ne, get_single_same, get_tySeg_ne, get_tySeg_type, get_tySeg_memory,
      get_optField_ne, get_optField_same, get_exportContract_ne, get_nil, ne_eq, String.reduceEq, not_false_eq_true,
      Option.none_or, Option.or_none, ite_self]
  cases s.kind <;> rfl

end Export

theorem StateDef.plain.initial_none {c : Chart} {s : StateDef} (hp : s.plain c) (hk : s.kind ≠ .compound) :
    s.initial = none := by
  cases hi : s.initial with
  | none => rfl
  | some i => exact absurd (hp.initial i hi).2 hk

theorem StateDef.plain.memory_none {c : Chart} {s : StateDef} (hp : s.plain c) (hk : s.kind.isHistory = false) :
    s.memory = none := by
  cases hm : s.memory with
  | none => rfl
  | some m => rw [(hp.memory m hm).2] at hk; cases hk

theorem StateDef.eq_of_fields {s : StateDef} {k : Kind} {i m : Option Name}
    (hk : s.kind = k) (hi : s.initial = i) (hm : s.memory = m) :
    ({ name := s.name, kind := k, initial := i, memory := m, onEntry := s.onEntry, onExit := s.onExit,
       pre := s.pre, post := s.post, inv := s.inv } : StateDef) = s := by
  subst hk hi hm; rfl

theorem importState_export (c : Chart) (f : Nat) (n : Name) (s : StateDef)
    (hs : c.stateFor n = some s) (hp : s.plain c) :
    importState (exportState c (f+1) n) = .ok s := by
  have hi := hp.initial_none
  have hm := hp.memory_none
  have h := exportState_fields c f n s hs
  generalize exportState c (f+1) n = D at h
  obtain ⟨m, rfl⟩ := h.isMap
  have e1 := stripField_of_get _ "on entry" s.onEntry h.onEntry hp.onEntry
  have e2 := stripField_of_get _ "on exit" s.onExit h.onExit hp.onExit
  -- `initial` / `memory` are written for compound / history states only, and `plain` states of other kinds have none
  have e3 : optNameAt (.map m) "initial" = .ok s.initial := by
    refine optNameAt_of_get _ _ _ ?_ (fun i h => (hp.initial i h).1)
    rw [h.initial]
    split
    · rfl
    · next hc => rw [hi (by simpa using hc)]; rfl
  have e4 : optNameAt (.map m) "memory" = .ok s.memory := by
    refine optNameAt_of_get _ _ _ ?_ (fun i h => (hp.memory i h).1)
    rw [h.memory]
    split
    · rfl
    · next hc => rw [hm (by simpa using hc)]; rfl
  have hC := importContract_of_get _ _ _ _ h.contract hp.pre hp.post hp.inv
  have gName := h.name
  have gType := h.type
  have gStates := h.states
  have gPar := h.parallel
  -- only from here on the kind matters: which of `type`, `states`, `parallel states` are there
  cases hk : s.kind <;> rw [hk] at gType gStates gPar hi hm <;>
    simp only [importState, gName, e1, e2, truthyAt, presentAt, gStates, gPar, importKind, gType, tyData, hC, e3, e4,
      beq_iff_eq, reduceCtorEq, if_false, if_true, Bool.false_and, Bool.and_false, Bool.false_eq_true, Bool.not_false,
      Bool.and_true]
  case basic => exact congrArg _ (StateDef.eq_of_fields hk (hi (by decide)) (hm rfl))
  case compound => exact congrArg _ (StateDef.eq_of_fields hk rfl (hm rfl))
  case orthogonal => exact congrArg _ (StateDef.eq_of_fields hk (hi (by decide)) (hm rfl))
  case shallow => exact congrArg _ (StateDef.eq_of_fields hk (hi (by decide)) rfl)
  case deep => exact congrArg _ (StateDef.eq_of_fields hk (hi (by decide)) rfl)
  case final => exact congrArg _ (StateDef.eq_of_fields hk (hi (by decide)) (hm rfl))

theorem importState_export_compound (c : Chart) (f : Nat) (n : Name) (s : StateDef)
    (hs : c.stateFor n = some s) (hn : s.name = n) (hp : s.plain c) (hk : s.kind = .compound) :
    importState (exportState c (f+1) n) = .ok s :=
  importState_export c f n s hs hp

end Sismic
