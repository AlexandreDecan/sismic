import Sismic.Proofs.EquivRun
import Sismic.Model.Py
/-!
# Sismic.Proofs.PyRename — the model of `PythonEvaluator` cannot tell state names apart

unless the code asks for them: `active(...)` is the only thing exposed to code which depends on the
names of the states.  Code that never calls `active` evaluates and executes the same under every
configuration (`evalExpr_config`, `execStmts_config` and their companions, by recursion on the syntax;
gathered in `eval_config`, `exec_config`); the entry and idle times and the `__old__` store are looked
up under the relabelled keys.  Hence an instance of `EnvR` for the Python evaluator and every
admissible relabelling under which no code of the statechart can tell a configuration from the
relabelled one (`pyEnvR`, `Chart.ConfigFree`): whatever the relabelling when the code never calls
`active` (`pyEnvR_rename`), and whatever the code when no name changes (`Chart.configFree_id`).
-/
namespace Sismic

mutual
def Expr.noActive : Expr → Bool
  | .const _ => true
  | .name _ => true
  | .binop _ l r => l.noActive && r.noActive
  | .and es => noActiveL es
  | .or es => noActiveL es
  | .not e => e.noActive
  | .neg e => e.noActive
  | .cmp l rest => l.noActive && noActiveC rest
  | .attr e _ => e.noActive
  | .call f args kw => f != "active" && noActiveL args && noActiveK kw
  | .ite c t e => c.noActive && t.noActive && e.noActive
def noActiveL : List Expr → Bool
  | [] => true
  | e :: es => e.noActive && noActiveL es
def noActiveC : List (CmpOp × Expr) → Bool
  | [] => true
  | (_, e) :: r => e.noActive && noActiveC r
def noActiveK : List (String × Expr) → Bool
  | [] => true
  | (_, e) :: r => e.noActive && noActiveK r
end

mutual
def Stmt.noActive : Stmt → Bool
  | .assign _ e => e.noActive
  | .aug _ _ e => e.noActive
  | .expr e => e.noActive
  | .pass => true
  | .ite c t e => c.noActive && noActiveS t && noActiveS e
def noActiveS : List Stmt → Bool
  | [] => true
  | s :: r => s.noActive && noActiveS r
end

/-- the code never calls `active` -/
def Code.noActive (c : Code) : Bool :=
  noActiveS c.body && (match c.expr with | some e => e.noActive | none => true)

theorem lookupName_config (env : PyEnv) (cfg : List Name) (st : PySt) (n : String) :
    lookupName { env with config := cfg } st n = lookupName env st n := rfl

theorem callFn_config (env : PyEnv) (cfg : List Name) (st : PySt) (f : String) (as : List Val)
    (kws : List (String × Val)) (hf : f ≠ "active") :
    callFn { env with config := cfg } st f as kws = callFn env st f as kws := by
  unfold callFn
  split <;> first | rfl | exact absurd rfl hf

/-! ### code that never calls `active` does not depend on the configuration: by recursion on the syntax -/

section
variable (env : PyEnv) (cfg : List Name)

theorem and_true_left {a b : Bool} (h : (a && b) = true) : a = true := ((Bool.and_eq_true _ _).mp h).1
theorem and_true_right {a b : Bool} (h : (a && b) = true) : b = true := ((Bool.and_eq_true _ _).mp h).2

mutual
theorem evalExpr_config : ∀ (e : Expr), e.noActive = true → ∀ st,
    evalExpr { env with config := cfg } st e = evalExpr env st e
  | .const _, _, _ => rfl
  | .name _, _, _ => rfl
  | .binop _ l r, h, st => by
    unfold evalExpr
    simp only [evalExpr_config l (and_true_left h), evalExpr_config r (and_true_right h)]
  | .and es, h, st => evalAnd_config es h st
  | .or es, h, st => evalOr_config es h st
  | .not e, h, st => by
    unfold evalExpr
    simp only [evalExpr_config e h]
  | .neg e, h, st => by
    unfold evalExpr
    simp only [evalExpr_config e h]
  | .cmp l rest, h, st => by
    unfold evalExpr
    simp only [evalExpr_config l (and_true_left h), evalCmp_config rest (and_true_right h)]
  | .attr e _, h, st => by
    unfold evalExpr
    simp only [evalExpr_config e h]
  | .call f args kw, h, st => by
    have hf : f ≠ "active" := by simpa using and_true_left (and_true_left h)
    unfold evalExpr
    simp only [evalArgs_config args (and_true_right (and_true_left h)), evalKw_config kw (and_true_right h),
      fun st as kws => callFn_config env cfg st f as kws hf]
  | .ite c t e, h, st => by
    unfold evalExpr
    simp only [evalExpr_config c (and_true_left (and_true_left h)), evalExpr_config t (and_true_right (and_true_left h)),
      evalExpr_config e (and_true_right h)]
theorem evalKw_config : ∀ (k : List (String × Expr)), noActiveK k = true → ∀ st,
    evalKw { env with config := cfg } st k = evalKw env st k
  | [], _, _ => rfl
  | (_, e) :: r, h, st => by
    unfold evalKw
    simp only [evalExpr_config e (and_true_left h), evalKw_config r (and_true_right h)]
theorem evalArgs_config : ∀ (l : List Expr), noActiveL l = true → ∀ st,
    evalArgs { env with config := cfg } st l = evalArgs env st l
  | [], _, _ => rfl
  | e :: r, h, st => by
    unfold evalArgs
    simp only [evalExpr_config e (and_true_left h), evalArgs_config r (and_true_right h)]
theorem evalCmp_config : ∀ (r : List (CmpOp × Expr)), noActiveC r = true → ∀ st a,
    evalCmp { env with config := cfg } st a r = evalCmp env st a r
  | [], _, _, _ => rfl
  | (_, e) :: r, h, st, a => by
    unfold evalCmp
    simp only [evalExpr_config e (and_true_left h), evalCmp_config r (and_true_right h)]
theorem evalOr_config : ∀ (l : List Expr), noActiveL l = true → ∀ st,
    evalOr { env with config := cfg } st l = evalOr env st l
  | [], _, _ => rfl
  | [e], h, st => evalExpr_config e (and_true_left h) st
  | e :: e' :: r, h, st => by
    unfold evalOr
    simp only [evalExpr_config e (and_true_left h), evalOr_config (e' :: r) (and_true_right h)]
theorem evalAnd_config : ∀ (l : List Expr), noActiveL l = true → ∀ st,
    evalAnd { env with config := cfg } st l = evalAnd env st l
  | [], _, _ => rfl
  | [e], h, st => evalExpr_config e (and_true_left h) st
  | e :: e' :: r, h, st => by
    unfold evalAnd
    simp only [evalExpr_config e (and_true_left h), evalAnd_config (e' :: r) (and_true_right h)]
end

mutual
theorem execStmt_config : ∀ (s : Stmt), s.noActive = true → ∀ st,
    execStmt { env with config := cfg } st s = execStmt env st s
  | .pass, _, _ => rfl
  | .expr e, h, st => by
    unfold execStmt
    simp only [evalExpr_config env cfg e h]
  | .assign _ e, h, st => by
    unfold execStmt
    simp only [evalExpr_config env cfg e h]
  | .aug _ _ e, h, st => by
    unfold execStmt
    simp only [evalExpr_config env cfg e h, lookupName_config]
  | .ite c t e, h, st => by
    unfold execStmt
    simp only [evalExpr_config env cfg c (and_true_left (and_true_left h)),
      execStmts_config t (and_true_right (and_true_left h)), execStmts_config e (and_true_right h)]
theorem execStmts_config : ∀ (l : List Stmt), noActiveS l = true → ∀ st,
    execStmts { env with config := cfg } st l = execStmts env st l
  | [], _, _ => rfl
  | s :: r, h, st => by
    unfold execStmts
    simp only [execStmt_config s (and_true_left h), execStmts_config r (and_true_right h)]
end

end

theorem eval_config (env : PyEnv) (cfg : List Name) :
    (∀ st e, e.noActive = true → evalExpr { env with config := cfg } st e = evalExpr env st e) ∧
    (∀ st k, noActiveK k = true → evalKw { env with config := cfg } st k = evalKw env st k) ∧
    (∀ st l, noActiveL l = true → evalArgs { env with config := cfg } st l = evalArgs env st l) ∧
    (∀ st a r, noActiveC r = true → evalCmp { env with config := cfg } st a r = evalCmp env st a r) ∧
    (∀ st l, noActiveL l = true → evalOr { env with config := cfg } st l = evalOr env st l) ∧
    (∀ st l, noActiveL l = true → evalAnd { env with config := cfg } st l = evalAnd env st l) :=
  ⟨fun st e h => evalExpr_config env cfg e h st, fun st k h => evalKw_config env cfg k h st,
    fun st l h => evalArgs_config env cfg l h st, fun st a r h => evalCmp_config env cfg r h st a,
    fun st l h => evalOr_config env cfg l h st, fun st l h => evalAnd_config env cfg l h st⟩

theorem exec_config (env : PyEnv) (cfg : List Name) :
    (∀ st s, s.noActive = true → execStmt { env with config := cfg } st s = execStmt env st s) ∧
    (∀ st l, noActiveS l = true → execStmts { env with config := cfg } st l = execStmts env st l) :=
  ⟨fun st s h => execStmt_config env cfg s h st, fun st l h => execStmts_config env cfg l h st⟩

theorem pyEval_config (env : PyEnv) (cfg : List Name) (ctx : PyCtx) (code : Code) (hna : code.noActive = true) :
    pyEval { env with config := cfg } ctx code = pyEval env ctx code := by
  unfold pyEval
  split
  · rfl
  · cases he : code.expr with
    | none => rfl
    | some e =>
      have : e.noActive = true := by
        simp only [Code.noActive, he, Bool.and_eq_true] at hna
        exact hna.2
      simp only [evalExpr_config env cfg e this]

/-! ### the statechart's code never calls `active` -/

structure Chart.NoActive (c : Chart) : Prop where
  guard : ∀ t ∈ c.transitions, ∀ g, t.guard = some g → g.noActive = true
  action : ∀ t ∈ c.transitions, ∀ a, t.action = some a → a.noActive = true
  onEntry : ∀ s ∈ c.states, ∀ a, s.onEntry = some a → a.noActive = true
  onExit : ∀ s ∈ c.states, ∀ a, s.onExit = some a → a.noActive = true
  conds : ∀ obj, ObjOf c obj → ∀ k, ∀ code ∈ obj.conds k, code.noActive = true

theorem assocGet_renKeys {ν : Type} {ρ : Name → Name} {S : Name → Prop} (hρ : RenOK S ρ) (k : Name) (hk : S k) :
    ∀ (l : List (Name × ν)), (∀ p ∈ l, S p.1) → assocGet (ρ k) (renKeys ρ l) = assocGet k l := by
  intro l hl
  unfold assocGet renKeys
  rw [find?_map_comm _ (fun p => p.1 == k) _ l (fun p hp => hρ.beq _ _ (hl p hp) hk), Option.map_map]
  rfl

/-- the keys of the `__old__` store that matter -/
def InDomS (S : Name → Prop) (c : Chart) : ObjId → Prop
  | .state n => S n
  | .trans i => i ∈ c.transitions.map (·.id)

/-- evaluator states of the two runs: same variables; the `__old__` store of the second is that of
    the first under the relabelled keys -/
def PyRen (ρ : Name → Name) (ι : Nat → Nat) (S : Name → Prop) (c : Chart) (a a' : PyCtx) : Prop :=
  a'.vars = a.vars ∧ a'.unsupported = a.unsupported ∧
    ∀ o, InDomS S c o → assocGet (o.ren ρ ι) a'.old = assocGet o a.old

theorem objId_ren_inj' {ρ : Name → Name} {S : Name → Prop} (hρ : RenOK S ρ) (ι : Nat → Nat) (c : Chart)
    (hinj : ∀ i j, i ∈ c.transitions.map (·.id) → j ∈ c.transitions.map (·.id) → ι i = ι j → i = j)
    (o o' : ObjId) (ho : InDomS S c o) (ho' : InDomS S c o') (h : o.ren ρ ι = o'.ren ρ ι) : o = o' := by
  cases o with
  | state n =>
    cases o' with
    | state n' =>
      simp only [ObjId.ren, ObjId.state.injEq] at h
      rw [hρ.inj n n' ho ho' h]
    | trans j => simp [ObjId.ren] at h
  | trans i =>
    cases o' with
    | state n' => simp [ObjId.ren] at h
    | trans j =>
      simp only [ObjId.ren, ObjId.trans.injEq] at h
      rw [hinj i j ho ho' h]

theorem objOf_inDomS {S : Name → Prop} (c : Chart) (hn : NamesIn S c) (obj : Obj) (h : ObjOf c obj) :
    InDomS S c obj.id := by
  cases obj with
  | state s => exact hn.states s h
  | trans t => exact List.mem_map.2 ⟨t, h, rfl⟩

theorem Code.noActive_body (c : Code) (h : c.noActive = true) : noActiveS c.body = true := by
  simp only [Code.noActive, Bool.and_eq_true] at h
  exact h.1

theorem pyEval_vars (env : PyEnv) (a a' : PyCtx) (code : Code) (h : a'.vars = a.vars) :
    pyEval env a' code = pyEval env a code := by
  unfold pyEval
  rw [h]

/-- the code computes the same whether it is shown `cfg` or `cfg.map ρ` as the configuration -/
def Code.ConfigFree (ρ : Name → Name) (code : Code) : Prop :=
  ∀ (t : Int) (cfg : List Name) (event : Option (Option Event)) (old : Option Val) (entryT idleT : Option (Option Int))
    (sn : Option (List String)) (rc : Option (Option String)) (cs : Bool),
    (∀ ctx, pyEval ⟨t, cfg.map ρ, event, old, entryT, idleT, sn, rc, cs⟩ ctx code =
      pyEval ⟨t, cfg, event, old, entryT, idleT, sn, rc, cs⟩ ctx code) ∧
    (∀ st, execStmts ⟨t, cfg.map ρ, event, old, entryT, idleT, sn, rc, cs⟩ st code.body =
      execStmts ⟨t, cfg, event, old, entryT, idleT, sn, rc, cs⟩ st code.body)

theorem Code.configFree_id (code : Code) : code.ConfigFree id := by
  intro t cfg event old entryT idleT sn rc cs
  rw [List.map_id]
  exact ⟨fun _ => rfl, fun _ => rfl⟩

theorem Code.configFree_of_noActive (ρ : Name → Name) (code : Code) (h : code.noActive = true) : code.ConfigFree ρ :=
  fun t cfg event old entryT idleT sn rc cs =>
    ⟨fun ctx => pyEval_config ⟨t, cfg, event, old, entryT, idleT, sn, rc, cs⟩ (cfg.map ρ) ctx code h,
     fun st => execStmts_config ⟨t, cfg, event, old, entryT, idleT, sn, rc, cs⟩ (cfg.map ρ) _ (Code.noActive_body code h) st⟩

def ExecKind.code : ExecKind → Option Code
  | .onEntry s => s.onEntry
  | .onExit s => s.onExit
  | .action t => t.action

/-- only an action is shown the event -/
def ExecKind.shown (ev : Option Event) : ExecKind → Option (Option Event)
  | .action _ => some ev
  | _ => none

/-- `pyExec` looks at the kind of code only for the code itself and whether the event is shown -/
theorem pyExec_eq (st : IState PyCtx) (k : ExecKind) (ev : Option Event) :
    pyExec st k ev =
      match k.code with
      | none => (st.ctx, some [])
      | some code =>
        if code.unsupported then ({ st.ctx with unsupported := true }, none) else
        let r := execStmts { viewEnv st with event := k.shown ev, canSend := true } { vars := st.ctx.vars } code.body
        ({ st.ctx with vars := r.2.vars, unsupported := st.ctx.unsupported || r.2.unsupported },
          if r.1 then some r.2.sent else none) := by
  cases k <;> rfl

theorem ExecKind.ren_code (ρ : Name → Name) (ι : Nat → Nat) (k : ExecKind) : (k.ren ρ ι).code = k.code := by
  cases k <;> rfl

theorem ExecKind.ren_shown (ρ : Name → Name) (ι : Nat → Nat) (k : ExecKind) (ev : Option Event) :
    (k.ren ρ ι).shown ev = k.shown ev := by
  cases k <;> rfl

/-- no code of the statechart can tell the configuration from the relabelled one -/
structure Chart.ConfigFree (ρ : Name → Name) (c : Chart) : Prop where
  guard : ∀ t ∈ c.transitions, ∀ g, t.guard = some g → g.ConfigFree ρ
  action : ∀ t ∈ c.transitions, ∀ a, t.action = some a → a.ConfigFree ρ
  onEntry : ∀ s ∈ c.states, ∀ a, s.onEntry = some a → a.ConfigFree ρ
  onExit : ∀ s ∈ c.states, ∀ a, s.onExit = some a → a.ConfigFree ρ
  conds : ∀ obj, ObjOf c obj → ∀ k, ∀ code ∈ obj.conds k, code.ConfigFree ρ

theorem Chart.NoActive.configFree {c : Chart} (h : c.NoActive) (ρ : Name → Name) : c.ConfigFree ρ where
  guard t ht g hg := g.configFree_of_noActive ρ (h.guard t ht g hg)
  action t ht a ha := a.configFree_of_noActive ρ (h.action t ht a ha)
  onEntry s hs a ha := a.configFree_of_noActive ρ (h.onEntry s hs a ha)
  onExit s hs a ha := a.configFree_of_noActive ρ (h.onExit s hs a ha)
  conds obj ho k code hc := code.configFree_of_noActive ρ (h.conds obj ho k code hc)

theorem Chart.configFree_id (c : Chart) : c.ConfigFree id where
  guard _ _ g _ := g.configFree_id
  action _ _ a _ := a.configFree_id
  onEntry _ _ a _ := a.configFree_id
  onExit _ _ a _ := a.configFree_id
  conds _ _ _ code _ := code.configFree_id

theorem Chart.ConfigFree.exec {ρ : Name → Name} {c : Chart} (h : c.ConfigFree ρ) (k : ExecKind) (hk : ExecOf c k)
    (a : Code) (ha : k.code = some a) : a.ConfigFree ρ := by
  cases k with
  | onEntry s => exact h.onEntry s hk a ha
  | onExit s => exact h.onExit s hk a ha
  | action t => exact h.action t hk a ha

variable {ω : Type}

/-- **The two runs are related**: the statechart relabelled by `ρ` / `ι`, the modelled
    `PythonEvaluator` on both sides, listeners that cannot tell the names apart — provided that no
    code of the statechart can tell a configuration from the relabelled one. -/
theorem pyEnvR {ρ : Name → Name} (ι : Nat → Nat) {S : Name → Prop} (env env' : Env PyCtx ω)
    (hok : RenOK S ρ) (hren : IsRen ρ ι env.chart env'.chart) (hnames : NamesIn S env.chart)
    (hinit : ∀ s ∈ env.chart.states, ∀ i, s.initial = some i → S i)
    (hinj : ∀ i j, i ∈ env.chart.transitions.map (·.id) → j ∈ env.chart.transitions.map (·.id) → ι i = ι j → i = j)
    (free : env.chart.ConfigFree ρ)
    (hE : env.E = pyEvaluator) (hE' : env'.E = pyEvaluator) (hi : env'.ignoreContract = env.ignoreContract)
    (hf : env'.stabFuel = env.stabFuel)
    (hd : ∀ l m m' t w, MetaR ρ m m' → env'.deliver l m' t w = env.deliver l m t w) :
    EnvR ρ ι (PyRen ρ ι S env.chart) S env env' := by
  refine { ok := hok, ren := hren, names := hnames, initial := hinit, ignore := hi, fuel := hf, deliver := hd,
           guard := ?_, cond := ?_, exec := ?_, freeze := ?_ }
  · intro st st' t ev h1 hg hs hm
    rw [hE, hE']
    show pyGuard st' (t.relabel ρ ι) ev = pyGuard st t ev
    unfold pyGuard
    show (match t.guard with | none => _ | some code => _) = _
    cases hgc : t.guard with
    | none => rfl
    | some code =>
      simp only [viewEnv, Trans.relabel, h1.time, h1.config, h1.entryTime, h1.idleTime,
        assocGet_renKeys hok t.source hs _ hg.entryK, assocGet_renKeys hok t.source hs _ hg.idleK]
      rw [pyEval_vars _ _ _ _ h1.ctx.1]
      exact (free.guard t hm code hgc _ _ _ _ _ _ _ _ _).1 _
  · intro st st' kind obj code ev h1 hg hobj hcode
    rw [hE, hE']
    show pyCond st' kind (obj.ren ρ ι) code ev = pyCond st kind obj code ev
    have hfree := free.conds obj hobj kind code hcode
    have hso : S (ownerOf obj) := by
      cases obj with
      | state s => exact hnames.states s hobj
      | trans t => exact hnames.transS t hobj
    have hown : ownerOf (obj.ren ρ ι) = ρ (ownerOf obj) := by cases obj <;> rfl
    have hold : assocGet (obj.ren ρ ι).id st'.ctx.old = assocGet obj.id st.ctx.old := by
      rw [Obj.ren_id]
      exact h1.ctx.2.2 obj.id (objOf_inDomS _ hnames obj hobj)
    unfold pyCond
    simp only [viewEnv, sentNames, h1.time, h1.config, h1.sentEvents, hown, hold, h1.entryTime, h1.idleTime,
      assocGet_renKeys hok _ hso _ hg.entryK, assocGet_renKeys hok _ hso _ hg.idleK]
    cases kind <;> exact (pyEval_vars _ _ _ _ h1.ctx.1).trans ((hfree _ _ _ _ _ _ _ _ _).1 _)
  · intro st st' k ev h1 _ _ hof
    rw [hE, hE']
    show (pyExec st' (k.ren ρ ι) ev).2 = (pyExec st k ev).2 ∧
      PyRen ρ ι S env.chart (pyExec st k ev).1 (pyExec st' (k.ren ρ ι) ev).1
    obtain ⟨hv, hu, ho⟩ := h1.ctx
    rw [pyExec_eq, pyExec_eq, ExecKind.ren_code, ExecKind.ren_shown]
    cases hk : k.code with
    | none => exact ⟨rfl, hv, hu, ho⟩
    | some code =>
      simp only [viewEnv, h1.time, h1.config, hv, hu,
        (free.exec k hof code hk _ _ _ _ _ _ _ _ _).2]
      split
      · exact ⟨rfl, rfl, rfl, ho⟩
      · exact ⟨rfl, rfl, rfl, ho⟩
  · intro a a' obj hobj ⟨hv, hu, ho⟩
    rw [hE, hE']
    show PyRen ρ ι S env.chart (pyFreeze a obj) (pyFreeze a' (obj.ren ρ ι))
    refine ⟨hv, hu, fun o hdo => ?_⟩
    simp only [pyFreeze, Obj.ren_id, hv]
    by_cases e : o = obj.id
    · subst e
      rw [assocGet_assocSet_same, assocGet_assocSet_same]
    · have e' : o.ren ρ ι ≠ obj.id.ren ρ ι :=
        fun h => e (objId_ren_inj' hok ι env.chart hinj o obj.id hdo (objOf_inDomS _ hnames obj hobj) h)
      rw [assocGet_assocSet_other _ _ _ _ e', assocGet_assocSet_other _ _ _ _ e]
      exact ho o hdo

/-- **The two runs are related** (`EnvR` for the modelled `PythonEvaluator` and any admissible
    relabelling): the statechart relabelled by `ρ` / `ι`, the Python evaluator on both sides, listeners
    that cannot tell the names apart — provided that no code of the statechart calls `active`. -/
theorem pyEnvR_rename {ρ : Name → Name} (ι : Nat → Nat) {S : Name → Prop} (env env' : Env PyCtx ω)
    (hok : RenOK S ρ) (hren : IsRen ρ ι env.chart env'.chart) (hnames : NamesIn S env.chart)
    (hinit : ∀ s ∈ env.chart.states, ∀ i, s.initial = some i → S i)
    (hinj : ∀ i j, i ∈ env.chart.transitions.map (·.id) → j ∈ env.chart.transitions.map (·.id) → ι i = ι j → i = j)
    (hna : env.chart.NoActive)
    (hE : env.E = pyEvaluator) (hE' : env'.E = pyEvaluator) (hi : env'.ignoreContract = env.ignoreContract)
    (hf : env'.stabFuel = env.stabFuel)
    (hd : ∀ l m m' t w, MetaR ρ m m' → env'.deliver l m' t w = env.deliver l m t w) :
    EnvR ρ ι (PyRen ρ ι S env.chart) S env env' :=
  pyEnvR ι env env' hok hren hnames hinit hinj (hna.configFree ρ) hE hE' hi hf hd

end Sismic
