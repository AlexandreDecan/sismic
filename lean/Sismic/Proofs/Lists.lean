import Sismic.Model.Interp
/-!
# Sismic.Proofs.Lists — lookups in lists with unique keys, and in association lists

The dictionaries of the model (`states`, `parent`, `children`, history memory, recorded times, the
`__old__` store) are lists searched by `find?` on a key; these are the facts every proof about them
shares.
-/
namespace Sismic

/-! ### searches -/

section searches
variable {α β : Type}

-- a search in `l.map g` whose test is the test of `l` seen through `g` gives the mapped answer
theorem find?_map_comm (g : α → β) (p : α → Bool) (p' : β → Bool) :
    ∀ l : List α, (∀ x ∈ l, p' (g x) = p x) → (l.map g).find? p' = (l.find? p).map g
  | [], _ => rfl
  | x :: xs, h => by
    simp only [List.map_cons, List.find?_cons, h x List.mem_cons_self]
    split
    · rfl
    · exact find?_map_comm g p p' xs (fun y hy => h y (List.mem_cons_of_mem _ hy))

theorem filter_map_comm (f : α → β) (p : α → Bool) (p' : β → Bool) (l : List α)
    (h : ∀ x ∈ l, p' (f x) = p x) : (l.map f).filter p' = (l.filter p).map f := by
  rw [List.filter_map]; exact congrArg _ (List.filter_congr h)

theorem any_map_comm (f : α → β) (p : α → Bool) (p' : β → Bool) :
    ∀ l : List α, (∀ x ∈ l, p' (f x) = p x) → (l.map f).any p' = l.any p
  | [], _ => rfl
  | x :: xs, h => by
    simp only [List.map_cons, List.any_cons, h x (by simp)]
    rw [any_map_comm f p p' xs (fun y hy => h y (by simp [hy]))]

theorem takeWhile_map_comm (f : α → β) (p : α → Bool) (p' : β → Bool) :
    ∀ l : List α, (∀ x ∈ l, p' (f x) = p x) → (l.map f).takeWhile p' = (l.takeWhile p).map f
  | [], _ => rfl
  | x :: xs, h => by
    simp only [List.map_cons, List.takeWhile_cons, h x (by simp)]
    split
    · simp only [List.map_cons]; rw [takeWhile_map_comm f p p' xs (fun y hy => h y (by simp [hy]))]
    · rfl

theorem findSome?_map_comm {γ δ : Type} (g : α → β) (h : γ → δ) (f : α → Option γ) (f' : β → Option δ) :
    ∀ l : List α, (∀ x ∈ l, f' (g x) = (f x).map h) → (l.map g).findSome? f' = (l.findSome? f).map h
  | [], _ => rfl
  | x :: xs, hx => by
    simp only [List.map_cons, List.findSome?_cons, hx x (by simp)]
    cases f x with
    | none => exact findSome?_map_comm g h f f' xs (fun y hy => hx y (by simp [hy]))
    | some v => rfl

theorem find?_perm_of_unique (p : α → Bool) {l l' : List α} (hp : l'.Perm l)
    (hu : ∀ x ∈ l, ∀ y ∈ l, p x = true → p y = true → x = y) : l'.find? p = l.find? p := by
  cases h1 : l.find? p with
  | none => exact List.find?_eq_none.mpr (fun x hx => List.find?_eq_none.mp h1 x (hp.mem_iff.mp hx))
  | some x =>
    have hx := List.find?_some h1
    have hm := List.mem_of_find?_eq_some h1
    cases h2 : l'.find? p with
    | none => exact absurd hx (List.find?_eq_none.mp h2 x (hp.mem_iff.mpr hm))
    | some y => rw [hu y (hp.mem_iff.mp (List.mem_of_find?_eq_some h2)) x hm (List.find?_some h2) hx]

theorem nodup_of_map_nodup {κ : Type} (key : α → κ) (l : List α) (h : (l.map key).Nodup) : l.Nodup :=
  List.Pairwise.of_map key (fun _ _ h e => h (congrArg key e)) h

theorem nodup_concat_of_not_mem {l : List α} {x : α} (h : l.Nodup) (hx : x ∉ l) : (l ++ [x]).Nodup := by
  refine List.nodup_append.mpr ⟨h, by simp, fun a ha b hb => ?_⟩
  rw [List.mem_singleton.mp hb]
  exact fun e => hx (e ▸ ha)

theorem filter_length_lt (P Q : α → Bool) (hPQ : ∀ x, P x = true → Q x = true) (l : List α)
    (h : ∃ x ∈ l, Q x = true ∧ P x = false) : (l.filter P).length < (l.filter Q).length := by
  -- filtering by `P` is filtering by `Q` first, and then something is dropped
  have : l.filter P = (l.filter Q).filter P := by
    rw [List.filter_filter]
    apply List.filter_congr
    intro x _
    cases hp : P x
    · rfl
    · rw [hPQ x hp]; rfl
  obtain ⟨x, hx, hq, hp⟩ := h
  rw [this]
  exact List.length_filter_lt_length_iff_exists.2 ⟨x, List.mem_filter.2 ⟨hx, hq⟩, by simp [hp]⟩

end searches

/-! ### unique keys -/

section keys
variable {α κ : Type} [BEq κ] [LawfulBEq κ]

theorem find?_key_iff (key : α → κ) : ∀ (l : List α), (l.map key).Nodup → ∀ (k : κ) (x : α),
    l.find? (fun y => key y == k) = some x ↔ (x ∈ l ∧ key x = k)
  | [], _, k, x => by simp
  | y :: ys, hn, k, x => by
    obtain ⟨hy, hn'⟩ := List.nodup_cons.mp hn
    rw [List.find?_cons]
    by_cases hk : key y = k
    · rw [beq_iff_eq.mpr hk]
      refine ⟨fun h => Option.some.inj h ▸ ⟨List.mem_cons_self, hk⟩, fun ⟨hx, hxk⟩ => ?_⟩
      rcases List.mem_cons.mp hx with rfl | hx'
      · rfl
      · exact absurd (List.mem_map.mpr ⟨x, hx', hxk.trans hk.symm⟩) hy
    · rw [beq_false_of_ne hk, find?_key_iff key ys hn' k x, List.mem_cons]
      exact ⟨fun ⟨hx, hxk⟩ => ⟨.inr hx, hxk⟩,
        fun ⟨hx, hxk⟩ => ⟨hx.resolve_left (fun e => hk (e ▸ hxk)), hxk⟩⟩

theorem find?_of_mem_key (key : α → κ) {l : List α} (hn : (l.map key).Nodup) {x : α} (hx : x ∈ l) :
    l.find? (fun y => key y == key x) = some x :=
  (find?_key_iff key l hn _ x).mpr ⟨hx, rfl⟩

theorem perm_of_lookups (key : α → κ) (l l' : List α) (hn : (l.map key).Nodup) (hn' : (l'.map key).Nodup)
    (h : ∀ k, l'.find? (fun y => key y == k) = l.find? (fun y => key y == k)) : l'.Perm l := by
  apply (List.perm_ext_iff_of_nodup (nodup_of_map_nodup key l' hn') (nodup_of_map_nodup key l hn)).2
  intro a
  constructor
  · intro ha
    have := (find?_key_iff key l' hn' (key a) a).2 ⟨ha, rfl⟩
    rw [h] at this
    exact ((find?_key_iff key l hn (key a) a).1 this).1
  · intro ha
    have := (find?_key_iff key l hn (key a) a).2 ⟨ha, rfl⟩
    rw [← h] at this
    exact ((find?_key_iff key l' hn' (key a) a).1 this).1

theorem find?_perm_unique (key : α → κ) {l l' : List α} (hp : l'.Perm l)
    (hn : (l.map key).Nodup) (k : κ) :
    l'.find? (fun x => key x == k) = l.find? (fun x => key x == k) :=
  find?_perm_of_unique _ hp (fun x hx y hy kx ky => Option.some.inj
    (((find?_key_iff key l hn k x).mpr ⟨hx, beq_iff_eq.mp kx⟩).symm.trans
      ((find?_key_iff key l hn k y).mpr ⟨hy, beq_iff_eq.mp ky⟩)))

theorem map_key_filter (key : α → κ) (k : κ) (l : List α) :
    (l.filter (fun p => key p != k)).map key = (l.map key).filter (· != k) := by
  rw [List.filter_map]; rfl

/-- `g` is what is done to the entries that stay, `f` the intended image of every entry; they agree
    off the key `k`, whose entry `x` is dropped and appended again as `f x` -/
theorem perm_filter_append (key : α → κ) (k : κ) (f g : α → α) :
    ∀ (l : List α) (x : α), (l.map key).Nodup → x ∈ l → key x = k →
      (∀ y, key (g y) = key y) → (∀ y ∈ l, key y ≠ k → g y = f y) →
      (((l.map g).filter (fun y => key y != k)) ++ [f x]).Perm (l.map f)
  | [], x, _, hx, _, _, _ => by cases hx
  | y :: ys, x, hn, hx, hk, hg, hfg => by
    rw [List.map_cons] at hn
    obtain ⟨hy, hn'⟩ := List.nodup_cons.mp hn
    by_cases hyk : key y = k
    · -- `y` is the entry; no other has that key
      have hxy : x = y := by
        rcases List.mem_cons.mp hx with e | e
        · exact e
        · exact absurd (List.mem_map.mpr ⟨x, e, hk.trans hyk.symm⟩) hy
      subst hxy
      have hne : ∀ z ∈ ys, key z ≠ k := fun z hz e => hy (List.mem_map.mpr ⟨z, hz, e.trans hyk.symm⟩)
      have hrest : (ys.map g).filter (fun y => key y != k) = ys.map f := by
        rw [List.filter_eq_self.2 (by simpa [hg] using hne),
          List.map_congr_left (fun w hw => hfg w (List.mem_cons_of_mem _ hw) (hne w hw))]
      have h0 : (key (g x) != k) = false := by rw [hg]; simp [hyk]
      simp only [List.map_cons, List.filter_cons, h0, Bool.false_eq_true, if_false, hrest]
      exact List.perm_append_comm
    · have hx' : x ∈ ys := by
        rcases List.mem_cons.mp hx with e | e
        · exact absurd (e ▸ hk) hyk
        · exact e
      have h1 : (key (g y) != k) = true := by rw [hg]; simp [hyk]
      simp only [List.map_cons, List.filter_cons, h1, if_true, List.cons_append]
      rw [hfg y List.mem_cons_self hyk]
      exact List.Perm.cons _ (perm_filter_append key k f g ys x hn' hx' hk hg
        (fun w hw => hfg w (List.mem_cons_of_mem _ hw)))

variable {key : α → κ}

theorem find?_filter_key_ne (k k' : κ) (hne : k' ≠ k) (l : List α) :
    (l.filter (fun p => key p != k)).find? (fun p => key p == k') = l.find? (fun p => key p == k') := by
  rw [List.find?_filter]
  congr 1; funext p
  by_cases h : key p = k'
  · simp [h, hne]
  · simp [h]

theorem find?_filter_key_same (k : κ) (l : List α) :
    (l.filter (fun p => key p != k)).find? (fun p => key p == k) = none := by
  rw [List.find?_filter, List.find?_eq_none]
  intro p _
  simp

theorem find?_map_key (f : α → α) (hf : ∀ x, key (f x) = key x) (k : κ) (l : List α) :
    (l.map f).find? (fun p => key p == k) = (l.find? (fun p => key p == k)).map f :=
  find?_map_comm f _ _ l (fun x _ => by rw [hf])

theorem find?_none_of_not_key (k : κ) (l : List α) (h : k ∉ l.map key) :
    l.find? (fun p => key p == k) = none := by
  rw [List.find?_eq_none]
  intro p hp e
  exact h (List.mem_map.mpr ⟨p, hp, by simpa using e⟩)

theorem find?_some_of_key {k : κ} {l : List α} (h : k ∈ l.map key) :
    ∃ e, l.find? (fun p => key p == k) = some e := by
  obtain ⟨e, he, hk⟩ := List.mem_map.mp h
  cases hf : l.find? (fun p => key p == k) with
  | some x => exact ⟨x, rfl⟩
  | none => exact absurd (beq_iff_eq.mpr hk) (List.find?_eq_none.mp hf e he)

end keys

/-! ### association lists -/

section assoc
variable {κ ν : Type} [BEq κ] [LawfulBEq κ]

theorem find?_assocSet (k k' : κ) (v : ν) : ∀ l : List (κ × ν),
    (assocSet k v l).find? (fun p => p.1 == k') =
      if k == k' then some (k, v) else l.find? (fun p => p.1 == k')
  | [] => by
    simp only [assocSet, List.find?_cons, List.find?_nil]
    cases k == k' <;> rfl
  | (k₀, v₀) :: r => by
    unfold assocSet
    by_cases h : k₀ = k
    · subst h
      simp only [beq_self_eq_true, if_true, List.find?_cons]
      cases k₀ == k' <;> rfl
    · rw [if_neg (by simpa using h), List.find?_cons, List.find?_cons, find?_assocSet k k' v r]
      by_cases h' : k₀ = k'
      · rw [beq_iff_eq.mpr h', beq_false_of_ne (fun e : k = k' => h (h'.trans e.symm))]; rfl
      · rw [beq_false_of_ne h']

theorem of_mem_assocSet (k : κ) (v : ν) : ∀ (l : List (κ × ν)) (p : κ × ν), p ∈ assocSet k v l → p = (k, v) ∨ p ∈ l
  | [], _, h => .inl (List.mem_singleton.mp h)
  | (k₀, v₀) :: r, p, h => by
    unfold assocSet at h
    split at h
    · exact (List.mem_cons.mp h).imp_right (List.mem_cons_of_mem _)
    · rcases List.mem_cons.mp h with h | h
      · exact .inr (h ▸ List.mem_cons_self)
      · exact (of_mem_assocSet k v r p h).imp_right (List.mem_cons_of_mem _)

theorem forall_assocSet {P : κ × ν → Prop} (k : κ) (v : ν) (hkv : P (k, v)) (l : List (κ × ν))
    (hl : ∀ p ∈ l, P p) : ∀ p ∈ assocSet k v l, P p :=
  fun p hp => (of_mem_assocSet k v l p hp).elim (fun e => e ▸ hkv) (hl p)

theorem assocGet_assocSet (k k' : κ) (v : ν) (l : List (κ × ν)) :
    assocGet k' (assocSet k v l) = if k == k' then some v else assocGet k' l := by
  unfold assocGet
  rw [find?_assocSet]
  cases k == k' <;> rfl

theorem assocGet_assocSet_same (k : κ) (v : ν) (l : List (κ × ν)) : assocGet k (assocSet k v l) = some v := by
  rw [assocGet_assocSet, beq_self_eq_true]; rfl

theorem assocGet_assocSet_other (k k' : κ) (v : ν) (l : List (κ × ν)) (hne : k' ≠ k) :
    assocGet k' (assocSet k v l) = assocGet k' l := by
  rw [assocGet_assocSet, beq_false_of_ne (Ne.symm hne)]; rfl

variable [DecidableEq κ]

theorem find?_append_key (k₁ q : κ) (v : ν)
    (l : List (κ × ν)) (hnew : k₁ ∉ l.map (·.1)) :
    (l ++ [(k₁, v)]).find? (fun p => p.1 == q) =
      if q = k₁ then some (k₁, v) else l.find? (fun p => p.1 == q) := by
  rw [List.find?_append]
  by_cases h1 : q = k₁
  · subst h1
    rw [find?_none_of_not_key q l hnew, if_pos rfl]
    simp
  · rw [if_neg h1]
    cases l.find? (fun p => p.1 == q) <;> simp [Ne.symm h1]

theorem find?_filter_append_key (k₀ k₁ q : κ) (v : ν)
    (l : List (κ × ν)) (hne : k₁ ≠ k₀) (hnew : k₁ ∉ l.map (·.1)) :
    ((l.filter (fun p => p.1 != k₀)) ++ [(k₁, v)]).find? (fun p => p.1 == q) =
      if q = k₀ then none else if q = k₁ then some (k₁, v) else l.find? (fun p => p.1 == q) := by
  have hnew' : k₁ ∉ (l.filter (fun p => p.1 != k₀)).map (·.1) := fun h => by
    obtain ⟨e, he, hk⟩ := List.mem_map.mp h
    exact hnew (List.mem_map.mpr ⟨e, (List.mem_filter.mp he).1, hk⟩)
  rw [find?_append_key k₁ q v _ hnew']
  by_cases h0 : q = k₀
  · rw [if_pos h0, h0, if_neg hne.symm, find?_filter_key_same]
  · rw [if_neg h0, find?_filter_key_ne k₀ q h0]

/-- lookup under a relabelling `g` of the keys: the entry of `k` is the relabelled entry of the one
    key `k0` that becomes `k` -/
theorem find?_mapped (g : κ → κ) (f : ν → ν) (k0 k : κ) (l : List (κ × ν))
    (hinj : ∀ q ∈ l.map (·.1), g q = k → q = k0) :
    (l.map (fun p => (g p.1, f p.2))).find? (fun p => p.1 == k) =
      if g k0 = k then (l.find? (fun p => p.1 == k0)).map (fun p => (g p.1, f p.2)) else none := by
  induction l with
  | nil => simp
  | cons y ys ih =>
    have hinj' : ∀ q ∈ ys.map (·.1), g q = k → q = k0 := fun q hq => hinj q (by
      simp only [List.map_cons]; exact List.mem_cons_of_mem _ hq)
    simp only [List.map_cons, List.find?_cons]
    by_cases hy : g y.1 = k
    · have e : y.1 = k0 := hinj y.1 (by simp) hy
      have h1 : (g y.1 == k) = true := by simp [hy]
      have h2 : (y.1 == k0) = true := by simp [e]
      simp only [h1, h2]
      rw [e] at hy
      simp [hy]
    · have h1 : (g y.1 == k) = false := by simp [hy]
      simp only [h1]
      rw [ih hinj']
      by_cases hk : g k0 = k
      · have h2 : (y.1 == k0) = false := by
          have : y.1 ≠ k0 := fun e => hy (e ▸ hk)
          simp [this]
        simp [hk, h2]
      · simp [hk]

end assoc

/-! ### folds, short lists -/

theorem foldl_inv {α β} {P : β → Prop} {f : β → α → β} (h : ∀ b a, P b → P (f b a))
    (l : List α) (b : β) (hb : P b) : P (l.foldl f b) :=
  List.foldlRecOn l f hb (fun b hb a _ => h b a hb)

theorem length_le_one_iff {α} {l : List α} (hn : l.Nodup) : l.length ≤ 1 ↔ ∀ a ∈ l, ∀ b ∈ l, a = b :=
  match l, hn with
  | [], _ => ⟨fun _ _ h => (nomatch h), fun _ => Nat.zero_le 1⟩
  | [x], _ => ⟨fun _ a ha b hb => (List.mem_singleton.mp ha).trans (List.mem_singleton.mp hb).symm,
      fun _ => Nat.le_refl 1⟩
  | x :: y :: r, hn => ⟨fun h => absurd h (by simp), fun h => by
      rw [h x (by simp) y (by simp)] at hn; simp at hn⟩

theorem foldl_fst {α β γ} (f : α → γ → α) : ∀ (l : List γ) (x : α × β),
    l.foldl (fun x y => (f x.1 y, x.2)) x = (l.foldl f x.1, x.2)
  | [], _ => rfl
  | y :: l, x => foldl_fst f l (f x.1 y, x.2)

end Sismic
