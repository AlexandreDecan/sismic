import Sismic.Proofs.LegalMulti
/-!
# Sismic.Proofs.ChartPerm — two statecharts that differ in declaration order only: every tree query
and every planning function gives the same answer (C07)
-/
namespace Sismic

theorem Anc.of_parentFor {c c' : Chart} (hp : ∀ n, c'.parentFor n = c.parentFor n) {a b : Name}
    (x : Anc c' a b) : Anc c a b := by
  induction x with
  | base h => exact .base (hp _ ▸ h)
  | step h _ ih => exact .step (hp _ ▸ h) ih

/-- `c'` is `c` with states and transitions declared (registered) in another order -/
structure ChartPerm (c c' : Chart) : Prop where
  states : c'.states.Perm c.states
  names : (c.states.map (·.name)).Nodup
  parent : c'.parent.Perm c.parent
  parentKeys : (c.parent.map (·.1)).Nodup
  oneRoot : ∀ e ∈ c.parent, ∀ e' ∈ c.parent, e.2 = none → e'.2 = none → e = e'
  children : ∀ n, (c'.childrenFor n).Perm (c.childrenFor n)
  transitions : c'.transitions.Perm c.transitions

namespace ChartPerm
variable {c c' : Chart} (h : ChartPerm c c')
include h

theorem stateFor (n : Name) : c'.stateFor n = c.stateFor n := by
  simp only [Chart.stateFor]
  exact find?_perm_unique (·.name) h.states h.names n

theorem hasState (n : Name) : c'.hasState n = c.hasState n := by simp [Chart.hasState, h.stateFor]
theorem kindOf (n : Name) : c'.kindOf n = c.kindOf n := by simp [Chart.kindOf, h.stateFor]

theorem parentFor (n : Name) : c'.parentFor n = c.parentFor n := by
  simp only [Chart.parentFor]
  rw [find?_perm_unique (·.1) h.parent h.parentKeys n]

theorem root : c'.root = c.root := by
  simp only [Chart.root]
  congr 1
  exact find?_perm_of_unique _ h.parent (fun e he e' he' h1 h2 =>
    h.oneRoot e he e' he' (beq_iff_eq.mp h1) (beq_iff_eq.mp h2))

theorem ancestors (s : Name) : c'.ancestors s = c.ancestors s :=
  ancestors_congr h.parentFor h.states.length_eq s

theorem depth (s : Name) : c'.depth s = c.depth s := by simp [Chart.depth, h.ancestors]

theorem lca (a b : Name) : c'.lca a b = c.lca a b := by simp [Chart.lca, h.ancestors]

theorem lastBefore (s : Name) (l : Option Name) : Sismic.lastBefore c' s l = Sismic.lastBefore c s l := by
  simp [Sismic.lastBefore, h.ancestors]

theorem leDepthName : c'.leDepthName = c.leDepthName := by
  funext a b; simp [Chart.leDepthName, h.depth]

theorem leRevDepthName : c'.leRevDepthName = c.leRevDepthName := by
  funext a b; simp [Chart.leRevDepthName, h.depth]

theorem anc (a b : Name) : Anc c' a b ↔ Anc c a b :=
  ⟨Anc.of_parentFor h.parentFor, Anc.of_parentFor fun n => (h.parentFor n).symm⟩

theorem mem_children (n x : Name) : x ∈ c'.childrenFor n ↔ x ∈ c.childrenFor n := (h.children n).mem_iff

/-- every clause speaks of the chart through queries that agree, or of lists up to order -/
theorem wf (hw : WFChart c) : WFChart c' where
  tree := by
    obtain ⟨r, h1, h2⟩ := hw.tree.rank
    exact ⟨r, by simpa only [h.parentFor] using h1, by simpa only [h.states.length_eq] using h2⟩
  names := ((h.states.map (·.name)).nodup_iff).mpr hw.names
  root := by simpa only [h.root, h.parentFor, h.hasState] using hw.root
  parentState := by simpa only [h.parentFor, h.hasState] using hw.parentState
  nonroot := by simpa only [h.parentFor, h.hasState, h.root] using hw.nonroot
  children := by simpa only [h.mem_children, h.parentFor] using hw.children
  childrenNodup := fun p => (h.children p).nodup_iff.mpr (hw.childrenNodup p)
  composite := by simpa only [h.parentFor, h.kindOf] using hw.composite
  initial := by simpa only [h.parentFor, h.stateFor] using hw.initial
  regions := by simpa only [h.parentFor, h.kindOf] using hw.regions
  history := by simpa only [h.parentFor, h.kindOf, h.stateFor] using hw.history
  transitions := by simpa only [h.transitions.mem_iff, h.hasState] using hw.transitions
  sourceKind := by simpa only [h.transitions.mem_iff, h.kindOf] using hw.sourceKind
  noCross := by simpa only [h.transitions.mem_iff, h.kindOf, h.lca, h.lastBefore] using hw.noCross

end ChartPerm

namespace ChartPerm
variable {c c' : Chart} (h : ChartPerm c c')
include h

theorem mem_descendants_iff (hw : WFChart c) (s x : Name) : x ∈ c'.descendants s ↔ x ∈ c.descendants s := by
  rw [mem_descendants' c' (h.wf hw), mem_descendants' c hw, h.anc]

theorem descendants_perm' (hw : WFChart c) (s : Name) : (c'.descendants s).Perm (c.descendants s) := by
  rw [List.perm_ext_iff_of_nodup (descendants_nodup c' (h.wf hw) s) (descendants_nodup c hw s)]
  exact h.mem_descendants_iff hw s

theorem descendants_perm (hw : WFChart c) (s : Name) (hs : c.hasState s = true) :
    (c'.descendants s).Perm (c.descendants s) :=
  h.descendants_perm' hw s

theorem leafFor (hw : WFChart c) (cfg : List Name) : c'.leafFor cfg = c.leafFor cfg := by
  simp only [Chart.leafFor]
  apply List.filter_congr
  intro n _
  rw [(h.descendants_perm' hw n).any_eq]

theorem leafStep (mem : List (Name × List Name)) (leaf : Name) :
    Sismic.leafStep c' mem leaf = Sismic.leafStep c mem leaf := by
  simp only [Sismic.leafStep, h.stateFor, h.parentFor, h.root, h.leDepthName]
  have e1 : isort leName (c'.childrenFor leaf) = isort leName (c.childrenFor leaf) :=
    leName_total.isort_eq_of_perm (h.children leaf)
  rw [e1, (h.children leaf).isEmpty_eq]

theorem completeStep (cfg : List Name) (n : Name) :
    Sismic.completeStep c' cfg n = Sismic.completeStep c cfg n := by
  simp only [Sismic.completeStep, h.kindOf]
  have e1 : isort leName ((c'.childrenFor n).filter (fun x => !cfg.contains x)) =
      isort leName ((c.childrenFor n).filter (fun x => !cfg.contains x)) :=
    leName_total.isort_eq_of_perm ((h.children n).filter _)
  rw [e1]

theorem stabilizationStep (hw : WFChart c) (mem : List (Name × List Name)) (cfg : List Name) :
    Sismic.stabilizationStep c' mem cfg = Sismic.stabilizationStep c mem cfg := by
  simp only [Sismic.stabilizationStep, h.leafFor hw, h.leRevDepthName, h.leDepthName]
  have e1 : Sismic.leafStep c' mem = Sismic.leafStep c mem := funext (h.leafStep mem)
  have e2 : Sismic.completeStep c' cfg = Sismic.completeStep c cfg := funext (h.completeStep cfg)
  rw [e1, e2]

theorem createStep (hw : WFChart c) (cfg : List Name) (ev : Option Event) (t : Trans) :
    Sismic.createStep c' cfg ev t = Sismic.createStep c cfg ev t := by
  simp only [Sismic.createStep, h.lca, h.lastBefore, h.ancestors, h.leRevDepthName]
  cases t.target with
  | none => rfl
  | some tg =>
    simp only
    have e1 : isort c.leRevDepthName (c'.descendants (Sismic.lastBefore c t.source (c.lca t.source tg))) =
        isort c.leRevDepthName (c.descendants (Sismic.lastBefore c t.source (c.lca t.source tg))) :=
      (leRevDepthName_total c).isort_eq_of_perm (h.descendants_perm' hw _)
    rw [e1]

theorem memoryOf (hw : WFChart c) (cfg0 : List Name) (s : StateDef) (ch : Name) :
    Sismic.memoryOf c' cfg0 s ch = Sismic.memoryOf c cfg0 s ch := by
  simp only [Sismic.memoryOf, h.kindOf]
  have e1 : (fun x => (c'.descendants s.name).contains x) = (fun x => (c.descendants s.name).contains x) :=
    funext fun _ => (h.descendants_perm' hw s.name).contains_eq
  have e2 : (fun x => (c'.childrenFor s.name).contains x) = (fun x => (c.childrenFor s.name).contains x) :=
    funext fun _ => (h.children s.name).contains_eq
  rw [e1, e2]

end ChartPerm
end Sismic
