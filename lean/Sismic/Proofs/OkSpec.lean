import Sismic.Spec.Run
import Sismic.Proofs.Frame
/-!
# Sismic.Proofs.OkSpec — what each part of `execute_once` has done when it returns normally
(effect log exactly, configuration and history memory exactly)

The parts are sequential compositions, so what they do is stated compositionally: `Moves F L m` says
that `m`, when it returns, has mapped configuration and memory by `F` and appended `L` to the log;
`Moves.bind` composes the `F`s and appends the `L`s.
-/
namespace Sismic
open M

variable {σ ω α β γ : Type} (env : Env σ ω)

/-! ### `Chart.stateD`, a fold -/

theorem stateD_of_stateFor (c : Chart) (n : Name) (s : StateDef) (h : c.stateFor n = some s) :
    c.stateD n = s ∧ s.name = n := by
  unfold Chart.stateD
  rw [h]
  exact ⟨rfl, by simpa using List.find?_some h⟩

theorem stateD_name (c : Chart) (n : Name) : (c.stateD n).name = n := by
  cases h : c.stateFor n with
  | none => simp only [Chart.stateD, h]
  | some s => rw [(stateD_of_stateFor c n s h).1]; exact (stateD_of_stateFor c n s h).2

/-! ### what a computation has done when it returns -/

/-- from `rs` to `rs'` configuration and history memory were mapped by `F`, `L` was appended to the
    log and the initialisation flag was kept -/
def Moved (F : List Name × List (Name × List Name) → List Name × List (Name × List Name))
    (L : List Effect) (rs rs' : RS σ ω) : Prop :=
  (rs'.st.config, rs'.st.memory) = F (rs.st.config, rs.st.memory) ∧
    rs'.st.initialized = rs.st.initialized ∧ rs'.eff = rs.eff ++ L

theorem Moved.refl (rs : RS σ ω) : Moved id [] rs rs := ⟨rfl, rfl, (List.append_nil _).symm⟩

theorem Moved.trans {F₁ F₂ L₁ L₂} {a b c : RS σ ω} (h₁ : Moved F₁ L₁ a b) (h₂ : Moved F₂ L₂ b c) :
    Moved (F₂ ∘ F₁) (L₁ ++ L₂) a c :=
  ⟨h₂.1.trans (congrArg F₂ h₁.1), h₂.2.1.trans h₁.2.1, by rw [h₂.2.2, h₁.2.2, List.append_assoc]⟩

theorem Moved.cast {F F' L L'} {a b : RS σ ω} (h : Moved F L a b)
    (eF : F (a.st.config, a.st.memory) = F' (a.st.config, a.st.memory)) (eL : L = L') : Moved F' L' a b :=
  ⟨h.1.trans eF, h.2.1, eL ▸ h.2.2⟩

/-- whenever `m` returns normally it has done `Moved F L` -/
def Moves (F : List Name × List (Name × List Name) → List Name × List (Name × List Name))
    (L : List Effect) (m : M σ ω α) : Prop :=
  ∀ rs a rs', m rs = (.ok a, rs') → Moved F L rs rs'

namespace Moves
variable {F F₁ F₂ : List Name × List (Name × List Name) → List Name × List (Name × List Name)}
  {L L₁ L₂ : List Effect}

theorem bind {x : M σ ω α} {f : α → M σ ω β} (hx : Moves F₁ L₁ x) (hf : ∀ a, Moves F₂ L₂ (f a)) :
    Moves (F₂ ∘ F₁) (L₁ ++ L₂) (M.bind x f) := by
  intro rs b rs' h
  obtain ⟨a, r, h₁, h₂⟩ := bind_ok.mp h
  exact (hx _ _ _ h₁).trans (hf a _ _ _ h₂)

theorem cast {F' L'} {m : M σ ω α} (h : Moves F L m) (eF : F = F') (eL : L = L') : Moves F' L' m :=
  eF ▸ eL ▸ h

theorem pure (a : α) : Moves id [] (M.pure a : M σ ω α) := by
  intro rs b rs' h
  obtain ⟨_, rfl⟩ := pure_ok.mp h
  exact Moved.refl _

theorem throw (e : Err) : Moves F L (M.throw e : M σ ω α) := fun _ _ _ h => (throw_ok.mp h).elim

theorem get : Moves id [] (M.get : M σ ω (IState σ)) := by
  intro rs b rs' h
  obtain ⟨_, rfl⟩ := get_ok.mp h
  exact Moved.refl _

theorem emit (e : Effect) : Moves id [e] (M.emit e : M σ ω Unit) := by
  intro rs b rs' h
  rw [emit_ok.mp h]
  exact ⟨rfl, rfl, rfl⟩

theorem modify (F) (f : IState σ → IState σ)
    (hf : ∀ st, ((f st).config, (f st).memory) = F (st.config, st.memory) ∧ (f st).initialized = st.initialized) :
    Moves F [] (M.modify f : M σ ω Unit) := by
  intro rs b rs' h
  rw [modify_ok.mp h]
  exact ⟨(hf _).1, (hf _).2, (List.append_nil _).symm⟩

theorem ite {c : Prop} [Decidable c] {x y : M σ ω α} (hx : Moves F L x) (hy : Moves F L y) :
    Moves F L (if c then x else y) := by
  split <;> assumption

theorem collect {f : γ → M σ ω (List Sent)} {F : γ → _} {L : γ → List Effect} :
    ∀ xs : List γ, (∀ x ∈ xs, Moves (F x) (L x) (f x)) →
      Moves (fun cm => xs.foldl (fun cm x => F x cm) cm) (xs.flatMap L) (collect f xs)
  | [], _ => pure _
  | x :: xs, h =>
    (bind (h x (List.mem_cons_self ..)) fun _ =>
      bind (collect xs fun y hy => h y (List.mem_cons_of_mem _ hy)) fun _ => pure _).cast rfl (by simp)

theorem forEach {f : γ → M σ ω Unit} {L : γ → List Effect} (h : ∀ x, Moves id (L x) (f x)) :
    ∀ xs : List γ, Moves id (xs.flatMap L) (M.forEach f xs)
  | [] => pure _
  | x :: xs => (bind (h x) fun _ => forEach h xs).cast rfl rfl

end Moves

/-! ### listeners, meta-events, sent events -/

theorem raiseMeta_moves (m : Event) : Moves id [.metaEv m] (raiseMeta env m) := by
  intro rs u rs' h
  obtain ⟨q, hq⟩ := Rel.of_eq h (extq_raiseMeta env m)
  have he := raiseMeta_eff env m rs
  rw [h] at he
  exact ⟨by rw [hq]; rfl, by rw [hq], he⟩

theorem queueEvent_moves (i : Bool) (e : Event) : Moves id [] (queueEvent (σ := σ) (ω := ω) i e) := by
  cases i <;> exact Moves.modify id _ fun _ => ⟨rfl, rfl⟩

theorem raiseSent_moves : ∀ s : Sent, Moves id (sentLog s) (raiseSent env s)
  | .notify m => raiseMeta_moves env m
  | .internal e => by
    have tail : Moves id (if e.hasDelay then [.metaEv (metaDelayed e)] else [])
        (if e.hasDelay then raiseMeta env (metaDelayed e) else M.pure ()) := by
      cases e.hasDelay
      · exact Moves.pure _
      · exact raiseMeta_moves env _
    exact (Moves.bind (queueEvent_moves true e) fun _ =>
      Moves.bind (raiseMeta_moves env (metaSent e)) fun _ => tail).cast rfl rfl

theorem raiseAll_moves (sent : List Sent) : Moves id (sent.flatMap sentLog) (raiseAll env sent) := by
  unfold raiseAll
  refine Moves.forEach (fun s => ?_) sent
  exact Moves.cast (Moves.bind (raiseSent_moves env s) fun _ => Moves.modify id _ fun _ => ⟨rfl, rfl⟩) rfl
    (List.append_nil _)


/-! ### contracts, code, state lookup -/

theorem evalConds_ok (kind : CondKind) (obj : Obj) (ev : Option Event) :
    ∀ (codes : List Code) (i : Nat) (rs rs' : RS σ ω) (u : Unit),
      evalConds env kind obj ev i codes rs = (.ok u, rs') →
      rs' = { rs with eff := rs.eff ++ condsLogFrom kind obj ev i codes }
  | [], i, rs, rs', u, h => by
    obtain ⟨_, rfl⟩ := pure_ok.mp h
    exact (congrArg (RS.mk _ _) (List.append_nil _)).symm
  | c :: cs, i, rs, rs', u, h => by
    unfold evalConds at h
    obtain ⟨st, r1, h1, h⟩ := bind_ok.mp h
    obtain ⟨rfl, rfl⟩ := get_ok.mp h1
    obtain ⟨_, r2, h2, h⟩ := bind_ok.mp h
    rw [emit_ok.mp h2] at h
    -- only a condition that holds lets the loop go on
    cases hr : env.E.cond rs.st kind obj c ev with
    | none => rw [hr] at h; exact (throw_ok.mp h).elim
    | some b =>
      rw [hr] at h
      cases b with
      | false => exact (throw_ok.mp h).elim
      | true =>
        rw [evalConds_ok kind obj ev cs (i + 1) _ rs' u h, condsLogFrom, List.append_assoc]
        rfl

theorem evalConds_moves (kind : CondKind) (obj : Obj) (ev : Option Event) (i : Nat) (codes : List Code) :
    Moves id (condsLogFrom kind obj ev i codes) (evalConds env kind obj ev i codes) := by
  intro rs u rs' h
  rw [evalConds_ok env kind obj ev codes i rs rs' u h]
  exact ⟨rfl, rfl, rfl⟩

theorem evalContract_moves (kind : CondKind) (obj : Obj) (ev : Option Event) :
    Moves id (contractLog env.ignoreContract kind obj ev) (evalContract env kind obj ev) := by
  unfold evalContract contractLog
  split
  · exact Moves.pure _
  · exact Moves.cast (Moves.bind (Moves.ite (Moves.modify id _ fun _ => ⟨rfl, rfl⟩) (Moves.pure _)) fun _ =>
      evalConds_moves env _ _ _ _ _) rfl rfl

theorem runCode_moves (k : ExecKind) (ev : Option Event) : Moves id [] (runCode env k ev) := by
  unfold runCode
  refine Moves.cast (Moves.bind Moves.get fun st =>
    Moves.bind (F₂ := id) (L₂ := []) (Moves.modify id _ fun _ => ⟨rfl, rfl⟩) fun _ => ?_) rfl rfl
  split
  · exact Moves.pure _
  · exact Moves.throw _


/-- `state_for` is a lookup that raises: what follows it runs with the state found -/
theorem stateObj_bind {F L} (n : Name) {f : StateDef → M σ ω α}
    (h : ∀ s, env.chart.stateFor n = some s → Moves F L (f s)) : Moves F L (M.bind (stateObj env n) f) := by
  unfold stateObj
  cases hs : env.chart.stateFor n with
  | some s => exact h s hs
  | none => exact fun _ _ _ h => nomatch h

theorem saveMemory_moves (cfg0 : List Name) (s : StateDef) : ∀ chs : List Name,
    Moves (fun cm => (cm.1, saveMem env.chart cfg0 s cm.2 chs)) [] (saveMemory env cfg0 s chs)
  | [] => Moves.pure _
  | ch :: rest => by
    unfold saveMemory saveMem
    cases memoryOf env.chart cfg0 s ch with
    | error e => exact Moves.throw _
    | ok o =>
      cases o with
      | none => exact saveMemory_moves cfg0 s rest
      | some a =>
        exact Moves.cast (Moves.bind (Moves.modify (fun cm => (cm.1, assocSet ch a cm.2)) _ fun _ => ⟨rfl, rfl⟩)
          fun _ => saveMemory_moves cfg0 s rest) rfl rfl

theorem exitState_moves (cfg0 : List Name) (step : Micro) (s : StateDef) (hs : env.chart.stateD s.name = s) :
    Moves (fun cm => exitPure env.chart cfg0 cm s.name) (exitLog env.ignoreContract step.event s)
      (exitState env cfg0 step s) := by
  have save : Moves (fun cm => (cm.1, if s.kind == .compound then
        saveMem env.chart cfg0 s cm.2 (env.chart.childrenFor s.name) else cm.2)) []
      (if s.kind == .compound then saveMemory env cfg0 s (env.chart.childrenFor s.name) else M.pure ()) := by
    split
    · exact saveMemory_moves env cfg0 s _
    · exact Moves.pure _
  unfold exitState
  refine Moves.cast (Moves.bind (Moves.emit _) fun _ => Moves.bind (runCode_moves env _ _) fun _ =>
    Moves.bind save fun _ =>
    Moves.bind Moves.get fun _ => Moves.bind (Moves.ite (Moves.throw _) (Moves.pure _)) fun _ =>
    Moves.bind (Moves.modify (fun cm => (cm.1.filter (fun x => x != s.name), cm.2)) _ fun _ => ⟨rfl, rfl⟩) fun _ =>
    Moves.bind (evalContract_moves env _ _ _) fun _ =>
    Moves.bind (raiseMeta_moves env _) fun _ => Moves.pure _) ?_ ?_
  · unfold exitPure
    rw [hs]
    rfl
  · rfl

theorem enterState_moves (step : Micro) (s : StateDef) :
    Moves (fun cm => (enterPure cm.1 s.name, cm.2)) (enterLog env.ignoreContract step.event s)
      (enterState env step s) := by
  unfold enterState
  exact Moves.cast (Moves.bind (evalContract_moves env _ _ _) fun _ => Moves.bind (Moves.emit _) fun _ =>
    Moves.bind (runCode_moves env _ _) fun _ =>
    Moves.bind (Moves.modify (fun cm => (enterPure cm.1 s.name, cm.2)) _ fun _ => ⟨rfl, rfl⟩) fun _ =>
    Moves.bind (raiseMeta_moves env _) fun _ => Moves.pure _) rfl (by simp [enterLog, metaEntered])

theorem fireTransition_moves (step : Micro) (t : Trans) :
    Moves id (transLog env.ignoreContract step.event t) (fireTransition env step t) := by
  unfold fireTransition
  exact Moves.cast (Moves.bind (evalContract_moves env _ _ _) fun _ =>
    Moves.bind (evalContract_moves env _ _ _) fun _ => Moves.bind (Moves.emit _) fun _ =>
    Moves.bind (runCode_moves env _ _) fun _ => Moves.bind (evalContract_moves env _ _ _) fun _ =>
    Moves.bind (evalContract_moves env _ _ _) fun _ =>
    Moves.bind (Moves.modify id _ fun _ => ⟨rfl, rfl⟩) fun _ =>
    Moves.bind (raiseMeta_moves env _) fun _ => Moves.pure _) rfl (by simp [transLog, metaProcessed])


theorem stateObjs_ok : ∀ (ns : List Name) (rs rs' : RS σ ω) (ss : List StateDef),
    stateObjs env ns rs = (.ok ss, rs') → rs = rs' ∧ ss = ns.map env.chart.stateD
  | [], rs, rs', ss, h => by
    obtain ⟨rfl, rfl⟩ := pure_ok.mp h
    exact ⟨rfl, rfl⟩
  | n :: ns, rs, rs', ss, h => by
    unfold stateObjs stateObj at h
    obtain ⟨s, r1, h1, h⟩ := bind_ok.mp h
    obtain ⟨ss', r2, h2, h⟩ := bind_ok.mp h
    obtain ⟨rfl, rfl⟩ := pure_ok.mp h
    obtain ⟨rfl, rfl⟩ := stateObjs_ok ns _ _ ss' h2
    cases hs : env.chart.stateFor n with
    | none => rw [hs] at h1; exact (throw_ok.mp h1).elim
    | some s' =>
      rw [hs] at h1
      obtain ⟨rfl, rfl⟩ := pure_ok.mp h1
      exact ⟨rfl, by rw [List.map_cons, (stateD_of_stateFor _ _ _ hs).1]⟩

/-! ### micro steps -/

theorem applyMicro_shape (c : Chart) (cm : List Name × List (Name × List Name)) (a b : Micro)
    (h : a.sameShape b) : applyMicro c cm a = applyMicro c cm b := by
  unfold applyMicro
  rw [h.2.2.1, h.2.2.2]

/-- a trace that starts with a step shaped like `s` goes on from `applyMicro … s` -/
theorem applyMicros_cons_shape (c : Chart) (cm : List Name × List (Name × List Name)) {m s : Micro}
    (h : m.sameShape s) (ms : List Micro) : applyMicros c cm (m :: ms) = applyMicros c (applyMicro c cm s) ms := by
  rw [applyMicros, List.foldl_cons, applyMicro_shape c cm m s h]
  rfl

/-- **`_apply_step`, normal return**: the returned micro step is the given one completed with the
    sent events; configuration and memory evolve as `applyMicro` says; the log is `microLog`. -/
theorem applyStep_ok (step : Micro) (rs rs' : RS σ ω) (a : Micro)
    (h : applyStep env step rs = (.ok a, rs')) :
    a.sameShape step ∧
    Moved (fun cm => applyMicro env.chart cm step) (microLog env.chart env.ignoreContract a) rs rs' := by
  unfold applyStep at h
  obtain ⟨entered, r1, h1, h⟩ := bind_ok.mp h
  obtain ⟨exited, r2, h2, h⟩ := bind_ok.mp h
  obtain ⟨st0, r3, h3, h⟩ := bind_ok.mp h
  obtain ⟨s1, r4, h4, h⟩ := bind_ok.mp h
  obtain ⟨s2, r5, h5, h⟩ := bind_ok.mp h
  obtain ⟨s3, r6, h6, h⟩ := bind_ok.mp h
  obtain ⟨_, r7, h7, h⟩ := bind_ok.mp h
  obtain ⟨rfl, rfl⟩ := pure_ok.mp h
  obtain ⟨rfl, rfl⟩ := stateObjs_ok env _ rs r1 entered h1
  obtain ⟨rfl, rfl⟩ := stateObjs_ok env _ _ r2 exited h2
  obtain ⟨rfl, rfl⟩ := get_ok.mp h3
  have e4 := Moves.collect _ (fun s hs => exitState_moves env rs.st.config step s (by
    obtain ⟨n, _, rfl⟩ := List.mem_map.mp hs
    rw [stateD_name])) _ _ _ h4
  have e5 : Moves id (match step.transition with
        | some t => transLog env.ignoreContract step.event t
        | none => [])
      (match step.transition with
        | some t => fireTransition env step t
        | none => M.pure []) := by
    cases step.transition
    · exact Moves.pure _
    · exact fireTransition_moves env step _
  have e6 := Moves.collect _ (fun s _ => enterState_moves env step s) _ _ _ h6
  refine ⟨⟨rfl, rfl, rfl, rfl⟩,
    (((e4.trans (e5 _ _ _ h5)).trans e6).trans (raiseAll_moves env _ _ _ _ h7)).cast ?_ ?_⟩
  · simp only [Function.comp, id, applyMicro, List.foldl_map, stateD_name, foldl_fst]
  · simp only [microLog, List.flatMap_map, List.append_assoc]
    rfl


theorem stabilize_ok : ∀ (n : Nat) (rs rs' : RS σ ω) (l : List Micro),
    stabilize env n rs = (.ok l, rs') →
    Moved (fun cm => applyMicros env.chart cm l) (l.flatMap (microLog env.chart env.ignoreContract)) rs rs' ∧
    StabChain env.chart (rs.st.config, rs.st.memory) l
  | 0, rs, rs', l, h => (throw_ok.mp h).elim
  | n+1, rs, rs', l, h => by
    unfold stabilize at h
    obtain ⟨st, r1, h1, h⟩ := bind_ok.mp h
    obtain ⟨rfl, rfl⟩ := get_ok.mp h1
    cases hs : stabilizationStep env.chart rs.st.memory rs.st.config with
    | none =>
      rw [hs] at h
      obtain ⟨rfl, rfl⟩ := pure_ok.mp h
      exact ⟨Moved.refl _, hs⟩
    | some s =>
      rw [hs] at h
      obtain ⟨a, r2, h2, h⟩ := bind_ok.mp h
      obtain ⟨rest, r3, h3, h⟩ := bind_ok.mp h
      obtain ⟨rfl, rfl⟩ := pure_ok.mp h
      obtain ⟨hshape, e2⟩ := applyStep_ok env s rs r2 a h2
      obtain ⟨e3, hchain⟩ := stabilize_ok n r2 r3 rest h3
      rw [e2.1] at hchain
      exact ⟨(e2.trans e3).cast (by simp only [Function.comp, applyMicros, List.foldl_cons,
        applyMicro_shape _ _ a s hshape]) (by rw [List.flatMap_cons]), s, hs, hshape, hchain⟩

theorem applyAll_ok : ∀ (ps : List Micro) (rs rs' : RS σ ω) (l : List Micro),
    applyAll env ps rs = (.ok l, rs') →
    Moved (fun cm => applyMicros env.chart cm l) (l.flatMap (microLog env.chart env.ignoreContract)) rs rs' ∧
    RunChain env.chart (rs.st.config, rs.st.memory) ps l
  | [], rs, rs', l, h => by
    obtain ⟨rfl, rfl⟩ := pure_ok.mp h
    exact ⟨Moved.refl _, rfl⟩
  | p :: ps, rs, rs', l, h => by
    unfold applyAll at h
    obtain ⟨a, r1, h1, h⟩ := bind_ok.mp h
    obtain ⟨stab, r2, h2, h⟩ := bind_ok.mp h
    obtain ⟨more, r3, h3, h⟩ := bind_ok.mp h
    obtain ⟨rfl, rfl⟩ := pure_ok.mp h
    obtain ⟨hshape, e1⟩ := applyStep_ok env p rs r1 a h1
    obtain ⟨e2, hstab⟩ := stabilize_ok env _ r1 r2 stab h2
    obtain ⟨e3, hrest⟩ := applyAll_ok ps r2 r3 more h3
    rw [e2.1, e1.1] at hrest
    rw [e1.1] at hstab
    exact ⟨((e1.trans e2).trans e3).cast (by simp only [Function.comp, applyMicros, List.foldl_cons,
      List.foldl_append, applyMicro_shape _ _ a p hshape]) (by simp),
      a, stab, more, rfl, hshape, hstab, hrest⟩


/-! ### planning -/

theorem logGuards_ok (st : IState σ) (ev : Option Event) : ∀ (calls : List (Trans × Bool)) (rs rs' : RS σ ω) (u : Unit),
    logGuards env st ev calls rs = (.ok u, rs') →
    rs' = { rs with eff := rs.eff ++ guardLog env.E st ev calls }
  | [], rs, rs', u, h => by
    obtain ⟨_, rfl⟩ := pure_ok.mp h
    exact (congrArg (RS.mk _ _) (List.append_nil _)).symm
  | (t, exposed) :: rest, rs, rs', u, h => by
    unfold logGuards at h
    obtain ⟨_, r1, h1, h⟩ := bind_ok.mp h
    rw [emit_ok.mp h1] at h
    cases hg : env.E.guard st t (if exposed then ev else none) with
    | none => rw [hg] at h; exact (throw_ok.mp h).elim
    | some b =>
      rw [hg] at h
      rw [logGuards_ok st ev rest _ rs' u h]
      simp only [guardLog, List.map_cons, List.append_assoc, List.cons_append, List.nil_append, hg]

/-- the guard evaluations `execute_once` logs when it plans in state `st`; `st0init`: was the
    interpreter initialised before the call (the call that initialises it evaluates no guard) -/
def planGuards (st0init : Bool) (st : IState σ) : List Effect :=
  if st0init then guardLog env.E st (peekEvent st) (selCalls env.chart env.E st) else []

theorem computeSteps_ok (rs rs' : RS σ ω) (l : List Micro) (h : computeSteps env rs = (.ok l, rs')) :
    rs'.st = { rs.st with initialized := true } ∧
    rs'.eff = rs.eff ++ planGuards env rs.st.initialized rs.st ∧
    (rs.st.initialized = false → l = [{ entered := env.chart.root.toList }]) ∧
    (rs.st.initialized = true → planOf env.chart env.E rs.st = .ok l) := by
  cases hi : rs.st.initialized with
  | false =>
    have : computeSteps env rs =
        (.ok [{ entered := env.chart.root.toList }], { rs with st := { rs.st with initialized := true } }) := by
      rw [computeSteps_def]
      show (if (!rs.st.initialized) = true then _ else _ : M σ ω (List Micro)) rs = _
      rw [hi]
      rfl
    cases this.symm.trans h
    exact ⟨rfl, (List.append_nil _).symm, fun _ => rfl, nofun⟩
  | true =>
    rw [computeSteps_eq env rs hi] at h
    obtain ⟨_, r1, h1, h⟩ := bind_ok.mp h
    rw [logGuards_ok env _ _ _ rs r1 _ h1] at h
    cases hp : planOf env.chart env.E rs.st with
    | error e => rw [hp] at h; cases e <;> exact (throw_ok.mp h).elim
    | ok l' =>
      rw [hp] at h
      obtain ⟨rfl, rfl⟩ := pure_ok.mp h
      exact ⟨by rw [← hi], rfl, nofun, fun _ => rfl⟩

/-! ### the macro step -/

theorem finishStep_ok (ms : Option MacroStep) (rs rs' : RS σ ω) (r : Option MacroStep)
    (h : finishStep env ms rs = (.ok r, rs')) :
    r = ms ∧ Moved id (finishLog env.chart env.ignoreContract rs.st.config (ms.bind (·.event))) rs rs' := by
  unfold finishStep at h
  obtain ⟨st, r1, h1, h⟩ := bind_ok.mp h
  obtain ⟨rfl, rfl⟩ := get_ok.mp h1
  obtain ⟨_, r2, h2, h⟩ := bind_ok.mp h
  obtain ⟨_, r3, h3, h⟩ := bind_ok.mp h
  obtain ⟨rfl, rfl⟩ := pure_ok.mp h
  have e2 := Moves.forEach (fun n => stateObj_bind env n fun s hs =>
    Moves.cast (evalContract_moves env .inv (.state s) (ms.bind (·.event))) rfl
      (by rw [(stateD_of_stateFor _ _ _ hs).1] :
        _ = contractLog env.ignoreContract .inv (.state (env.chart.stateD n)) (ms.bind (·.event)))) _ _ _ _ h2
  exact ⟨rfl, (e2.trans (raiseMeta_moves env _ _ _ _ h3)).cast rfl rfl⟩

theorem runSteps_ok (first : Micro) (tail : List Micro) (rs rs' : RS σ ω) (r : Option MacroStep)
    (h : runSteps env (first :: tail) rs = (.ok r, rs')) :
    ∃ steps, r = some { time := rs'.st.time, steps := steps } ∧
      RunChain env.chart (rs.st.config, rs.st.memory) (first :: tail) steps ∧
      Moved (fun cm => applyMicros env.chart cm steps)
        ((if first.event.isSome then [.metaEv (metaConsumed (popEvent rs.st).1)] else []) ++
          steps.flatMap (microLog env.chart env.ignoreContract)) rs rs' := by
  obtain ⟨_, r1, h1, h⟩ := bind_ok.mp h
  obtain ⟨steps, r2, h2, h⟩ := bind_ok.mp h
  obtain ⟨st, r3, h3, h⟩ := bind_ok.mp h
  obtain ⟨rfl, rfl⟩ := get_ok.mp h3
  obtain ⟨rfl, rfl⟩ := pure_ok.mp h
  have e1 : Moved id (if first.event.isSome then [.metaEv (metaConsumed (popEvent rs.st).1)] else []) rs r1 := by
    by_cases hev : first.event.isSome = true
    · rw [if_pos hev] at h1 ⊢
      obtain ⟨st, q1, g1, h1⟩ := bind_ok.mp h1
      obtain ⟨rfl, rfl⟩ := get_ok.mp g1
      exact Moves.cast (Moves.bind (Moves.modify id _ fun st =>
        ⟨by rw [popEvent_queues]; rfl, by rw [popEvent_queues]⟩) fun _ => raiseMeta_moves env _) rfl rfl _ _ _ h1
    · rw [if_neg hev] at h1 ⊢
      obtain ⟨_, rfl⟩ := pure_ok.mp h1
      exact Moved.refl _
  obtain ⟨e2, hchain⟩ := applyAll_ok env _ r1 r2 steps h2
  rw [e1.1] at hchain
  exact ⟨steps, rfl, hchain, (e1.trans e2).cast rfl rfl⟩


theorem time_of_rt {m : M σ ω α} (hm : Rel RT m) {rs : RS σ ω} {x : Except Err α × RS σ ω} (h : m rs = x) :
    x.2.st.time = rs.st.time := h ▸ (hm rs).1

/-- **`execute_once`, normal return.**  There is a planning state `st1` (the interpreter after
    `step started` was delivered: same configuration and memory, time = the clock value) such that
    the planned steps are `planOf st1`, the returned macro step is their `RunChain`, configuration and
    memory are the trace applied to the old ones, and the effect log is exactly the documented
    sequence. -/
theorem executeOnce_ok (clock : Int) (rs rs' : RS σ ω) (r : Option MacroStep)
    (h : executeOnce env clock rs = (.ok r, rs')) :
    ∃ (st1 : IState σ) (computed : List Micro),
      st1.time = clock ∧ st1.config = rs.st.config ∧ st1.memory = rs.st.memory ∧
      st1.initialized = rs.st.initialized ∧
      (rs.st.initialized = false → computed = [{ entered := env.chart.root.toList }]) ∧
      (rs.st.initialized = true → planOf env.chart env.E st1 = .ok computed) ∧
      rs'.st.initialized = true ∧ rs'.st.time = clock ∧
      (computed = [] → r = none ∧ rs'.st.config = rs.st.config ∧ rs'.st.memory = rs.st.memory ∧
        rs'.eff = rs.eff ++ [.metaEv (metaStarted clock)] ++ planGuards env rs.st.initialized st1 ++
          finishLog env.chart env.ignoreContract rs.st.config none) ∧
      (∀ first tail, computed = first :: tail →
        ∃ steps, r = some { time := clock, steps := steps } ∧
          RunChain env.chart (rs.st.config, rs.st.memory) computed steps ∧
          (rs'.st.config, rs'.st.memory) = applyMicros env.chart (rs.st.config, rs.st.memory) steps ∧
          rs'.eff = rs.eff ++ [.metaEv (metaStarted clock)] ++ planGuards env rs.st.initialized st1 ++
            (if first.event.isSome then
               [.metaEv (metaConsumed (popEvent { st1 with initialized := true }).1)] else []) ++
            steps.flatMap (microLog env.chart env.ignoreContract) ++
            finishLog env.chart env.ignoreContract rs'.st.config
              ((some ({ time := clock, steps := steps } : MacroStep)).bind (·.event))) := by
  unfold executeOnce at h
  obtain ⟨_, r0, h0, h⟩ := bind_ok.mp h
  rw [modify_ok.mp h0] at h
  obtain ⟨_, r1, h1, h⟩ := bind_ok.mp h
  obtain ⟨computed, r2, h2, h⟩ := bind_ok.mp h
  obtain ⟨ms, r3, h3, h4⟩ := bind_ok.mp h
  -- what the four parts did is chained as `Moved`; the step time, set by the first assignment, is
  -- followed separately through `RT`
  have t1 : r1.st.time = clock := time_of_rt (rt_raiseMeta env _) h1
  have t3 : r3.st.time = clock :=
    (time_of_rt (rt_runSteps env _) h3).trans ((time_of_rt (rt_computeSteps env) h2).trans t1)
  have t4 : rs'.st.time = clock := (time_of_rt (rt_finishStep env _) h4).trans t3
  have e1 := raiseMeta_moves env _ _ _ _ h1
  obtain ⟨hst2, heff2, hinit, hplan⟩ := computeSteps_ok env r1 r2 computed h2
  obtain ⟨rfl, e4⟩ := finishStep_ok env ms r3 rs' r h4
  have hc1 : r1.st.config = rs.st.config := congrArg Prod.fst e1.1
  have hm1 : r1.st.memory = rs.st.memory := congrArg Prod.snd e1.1
  have hi1 : r1.st.initialized = rs.st.initialized := e1.2.1
  have hc2 : r2.st.config = rs.st.config := by rw [hst2]; exact hc1
  have hm2 : r2.st.memory = rs.st.memory := by rw [hst2]; exact hm1
  rw [hi1] at heff2 hinit hplan
  cases computed with
  | nil =>
    obtain ⟨rfl, rfl⟩ := pure_ok.mp h3
    refine ⟨r1.st, [], t1, hc1, hm1, hi1, hinit, hplan, ?_, t4, fun _ => ⟨rfl, ?_, ?_, ?_⟩,
      fun _ _ h => absurd h.symm (List.cons_ne_nil _ _)⟩
    · rw [e4.2.1, hst2]
    · exact (congrArg Prod.fst e4.1).trans hc2
    · exact (congrArg Prod.snd e4.1).trans hm2
    · rw [e4.2.2, heff2, e1.2.2, hc2]
      rfl
  | cons first tail =>
    obtain ⟨steps, rfl, hchain, e3⟩ := runSteps_ok env first tail r2 r3 _ h3
    rw [hc2, hm2] at hchain
    refine ⟨r1.st, _, t1, hc1, hm1, hi1, hinit, hplan, ?_, t4, fun h => absurd h (List.cons_ne_nil _ _), ?_⟩
    · rw [e4.2.1, e3.2.1, hst2]
    · rintro _ _ ⟨rfl, rfl⟩
      refine ⟨steps, by rw [t3], hchain, ?_, ?_⟩
      · have := (e3.trans e4).1
        rwa [hc2, hm2] at this
      · have hc4 : rs'.st.config = r3.st.config := congrArg Prod.fst e4.1
        rw [e4.2.2, e3.2.2, heff2, e1.2.2, hst2, t3, hc4]
        simp only [List.append_assoc]
        rfl

/-- the call returned a macro step: its time is the clock value, its micro steps are the `RunChain`
    of a non-empty plan and, applied to the old configuration and memory, give the new ones; the log
    is the documented sequence; `st1` is the state in which the plan was made -/
theorem executeOnce_some (clock : Int) (rs rs' : RS σ ω) (ms : MacroStep)
    (h : executeOnce env clock rs = (.ok (some ms), rs')) :
    ∃ (st1 : IState σ) (first : Micro) (tail : List Micro), ms.time = clock ∧
      RunChain env.chart (rs.st.config, rs.st.memory) (first :: tail) ms.steps ∧
      (rs'.st.config, rs'.st.memory) = applyMicros env.chart (rs.st.config, rs.st.memory) ms.steps ∧
      rs'.eff = rs.eff ++ ([.metaEv (metaStarted clock)] ++ (planGuards env rs.st.initialized st1 ++
        ((if first.event.isSome then
            [.metaEv (metaConsumed (popEvent { st1 with initialized := true }).1)] else []) ++
          (ms.steps.flatMap (microLog env.chart env.ignoreContract) ++
            finishLog env.chart env.ignoreContract rs'.st.config ms.event)))) ∧
      st1.time = clock ∧ st1.config = rs.st.config ∧ st1.memory = rs.st.memory ∧
      (rs.st.initialized = false → first :: tail = [{ entered := env.chart.root.toList }]) ∧
      (rs.st.initialized = true → planOf env.chart env.E st1 = .ok (first :: tail)) := by
  obtain ⟨st1, computed, ht, hc, hm, _, hinit, hplan, _, _, hnil, hcons⟩ := executeOnce_ok env clock rs rs' _ h
  cases computed with
  | nil => exact nomatch (hnil rfl).1
  | cons first tail =>
    obtain ⟨steps, hr, hchain, hcm, heff⟩ := hcons first tail rfl
    cases hr
    simp only [List.append_assoc] at heff
    exact ⟨st1, first, tail, rfl, hchain, hcm, heff, ht, hc, hm, hinit, hplan⟩

/-- the call returned `None`: configuration and memory are unchanged, nothing but the start of the
    step, the guards of the selection and the end of the step was logged -/
theorem executeOnce_none (clock : Int) (rs rs' : RS σ ω)
    (h : executeOnce env clock rs = (.ok none, rs')) :
    ∃ st1 : IState σ, rs'.st.config = rs.st.config ∧ rs'.st.memory = rs.st.memory ∧
      rs'.eff = rs.eff ++ ([.metaEv (metaStarted clock)] ++ (planGuards env rs.st.initialized st1 ++
        finishLog env.chart env.ignoreContract rs.st.config none)) ∧
      st1.time = clock ∧ st1.config = rs.st.config ∧ st1.memory = rs.st.memory ∧
      rs.st.initialized = true ∧ planOf env.chart env.E st1 = .ok [] := by
  obtain ⟨st1, computed, ht, hc1, hm1, _, hinit, hplan, _, _, hnil, hcons⟩ := executeOnce_ok env clock rs rs' _ h
  cases computed with
  | nil =>
    obtain ⟨_, hc, hm, heff⟩ := hnil rfl
    have hi : rs.st.initialized = true := by
      cases hi : rs.st.initialized
      · exact nomatch hinit hi
      · rfl
    exact ⟨st1, hc, hm, by simpa only [List.append_assoc] using heff, ht, hc1, hm1, hi, hplan hi⟩
  | cons first tail =>
    obtain ⟨_, hr, _⟩ := hcons first tail rfl
    exact nomatch hr

end Sismic
