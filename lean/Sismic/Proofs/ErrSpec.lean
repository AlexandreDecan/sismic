import Sismic.Proofs.Frame
/-!
# Sismic.Proofs.ErrSpec — where exceptions come from

`ErrSpec P m`: whenever `m` raises `e`, `P e` holds of the state in which it is raised.  It holds
of `execute_once` for any `P` that holds at the primitive raising sites (`Raises`), by the walk of
Proofs/Frame.
-/
namespace Sismic
open M

variable {σ ω : Type} (env : Env σ ω)

structure ErrSpec {α : Type} (P : Err → RS σ ω → Prop) (m : M σ ω α) : Prop where
  spec : ∀ rs e rs', m rs = (.error e, rs') → P e rs'

namespace ErrSpec
variable {α β γ : Type} {P : Err → RS σ ω → Prop}

theorem pure (a : α) : ErrSpec P (M.pure a : M σ ω α) := ⟨fun _ _ _ h => nomatch h⟩

theorem get : ErrSpec P (M.get : M σ ω _) := ⟨fun _ _ _ h => nomatch h⟩

theorem modify (f : IState σ → IState σ) : ErrSpec P (M.modify f : M σ ω _) := ⟨fun _ _ _ h => nomatch h⟩

theorem emit (x : Effect) : ErrSpec P (M.emit x : M σ ω _) := ⟨fun _ _ _ h => nomatch h⟩

theorem throw (e : Err) (h : ∀ rs, P e rs) : ErrSpec P (M.throw e : M σ ω α) :=
  ⟨fun rs e' rs' h' => by obtain ⟨rfl, rfl⟩ := throw_error.mp h'; exact h rs⟩

theorem bind {x : M σ ω α} {f : α → M σ ω β} (hx : ErrSpec P x) (hf : ∀ a, ErrSpec P (f a)) :
    ErrSpec P (M.bind x f) :=
  ⟨fun rs e rs' h => (bind_error.mp h).elim (hx.spec rs e rs') fun ⟨a, r1, _, h2⟩ => (hf a).spec r1 e rs' h2⟩

end ErrSpec

/-- what `P` must satisfy at the primitive raising sites -/
structure Raises (P : Err → RS σ ω → Prop) : Prop where
  plain : ∀ e, e.plain = true → ∀ rs, P e rs
  raise : ∀ m : Event, ErrSpec P (raiseMeta env m)
  contract : ∀ (kind : CondKind) (obj : Obj) (ev : Option Event), ErrSpec P (evalContract env kind obj ev)

variable {env}

/-- assignments and logging never raise: only `raiseMeta`, `evalContract` and the `raise`
    statements matter -/
theorem Raises.toWalk {P : Err → RS σ ω → Prop} (H : Raises env P) : Walk env (fun _ m => ErrSpec P m) :=
  have L : Logic (fun _ m => ErrSpec P m) :=
    { pure := ErrSpec.pure, bind := ErrSpec.bind, get := ErrSpec.get, throw := fun e he => ErrSpec.throw e (H.plain e he) }
  Prims.toWalk {
    toLogic := L
    modify := fun f _ => ErrSpec.modify f
    emit := fun e _ => ErrSpec.emit e
    raise := H.raise
    contract := H.contract
    send := L.sendOne env H.raise (fun _ => ErrSpec.modify _) fun _ => ErrSpec.modify _
    markEnter := fun _ => ErrSpec.modify _
    markFire := fun _ => ErrSpec.modify _ }

theorem Raises.consume {P : Err → RS σ ω → Prop} (H : Raises env P) : ErrSpec P (consumeOne env) :=
  H.toWalk.toLogic.consumeOne env H.raise (ErrSpec.modify _)

theorem es_executeOnce {P : Err → RS σ ω → Prop} (H : Raises env P)
    (hnd : ∀ rs, P .nonDeterminism rs) (hcf : ∀ rs, P .conflicting rs) (clock : Int) :
    ErrSpec P (executeOnce env clock) :=
  walk_executeOnce H.toWalk (ErrSpec.throw _ hnd) (ErrSpec.throw _ hcf) H.consume clock (ErrSpec.modify _)

variable (env)

/-! ### instance: an exception tells where it was raised

A contract error is raised right after the evaluation, logged as false, of a condition of that
kind of that object; an exception coming from a listener is raised right after the meta-event that
was being delivered was logged — in both cases nothing is logged afterwards. -/

def Err.fromListener : Err → Bool
  | .propertyFailed _ | .listener _ => true
  | _ => false

/-- listeners raise only listener-class exceptions (`PropertyStatechartError`, or whatever a
    callable raises); in particular no contract error of a nested interpreter leaks out -/
def ListenerErrs (env : Env σ ω) : Prop :=
  ∀ l m t w e, (env.deliver l m t w).1 = .error e → e.fromListener = true

def RaisedAt (e : Err) (rs : RS σ ω) : Prop :=
  match e with
  | .precondition o _ => ∃ i ev, rs.eff.getLast? = some (.cond .pre o i ev (some false))
  | .postcondition o _ => ∃ i ev, rs.eff.getLast? = some (.cond .post o i ev (some false))
  | .invariant o _ => ∃ i ev, rs.eff.getLast? = some (.cond .inv o i ev (some false))
  | .propertyFailed _ => ∃ m, rs.eff.getLast? = some (.metaEv m)
  | .listener _ => ∃ m, rs.eff.getLast? = some (.metaEv m)
  | _ => True

theorem callListener_eff (m : Event) (l : Nat) (rs : RS σ ω) : (callListener env m l rs).2.eff = rs.eff := rfl

theorem forEach_callListener_error (hd : ListenerErrs env) (m : Event) :
    ∀ (ls : List Nat) (rs rs' : RS σ ω) (e : Err),
      M.forEach (callListener env m) ls rs = (.error e, rs') → e.fromListener = true
  | [], rs, rs', e, h => (pure_error.mp h).elim
  | l :: ls, rs, rs', e, h => by
    rcases bind_error.mp h with h1 | ⟨a, r1, _, h2⟩
    · exact hd _ _ _ _ _ (congrArg Prod.fst h1)
    · exact forEach_callListener_error hd m ls r1 rs' e h2

theorem raiseMeta_error (hd : ListenerErrs env) (m : Event) (rs rs' : RS σ ω) (e : Err)
    (h : raiseMeta env m rs = (.error e, rs')) : e.fromListener = true ∧ rs'.eff = rs.eff ++ [.metaEv m] :=
  ⟨forEach_callListener_error env hd m _ _ rs' e h, by have := raiseMeta_eff env m rs; rw [h] at this; exact this⟩

/-- when the evaluation of conditions raises, the last thing logged is the evaluation that did it:
    it raised itself (a `CodeEvaluationError`) or yielded false (the contract error of that kind) -/
theorem evalConds_error (kind : CondKind) (obj : Obj) (ev : Option Event) :
    ∀ (codes : List Code) (i : Nat) (rs rs' : RS σ ω) (e : Err),
      evalConds env kind obj ev i codes rs = (.error e, rs') →
      ∃ l j r, rs'.eff = rs.eff ++ l ++ [.cond kind obj.id j ev r] ∧
        (r = none ∧ e = .codeError ∨ r = some false ∧ ∃ c, e = kind.err obj.id c)
  | [], _, rs, rs', e, h => (pure_error.mp h).elim
  | c :: rest, i, rs, rs', e, h => by
    unfold evalConds at h
    simp only [M.bind, M.get, M.emit] at h
    cases hr : env.E.cond rs.st kind obj c ev with
    | none =>
      simp only [hr] at h
      obtain ⟨rfl, rfl⟩ := throw_error.mp h
      exact ⟨[], i, none, by simp, .inl ⟨rfl, rfl⟩⟩
    | some b =>
      cases b with
      | false =>
        simp only [hr] at h
        obtain ⟨rfl, rfl⟩ := throw_error.mp h
        exact ⟨[], i, some false, by simp, .inr ⟨rfl, _, rfl⟩⟩
      | true =>
        simp only [hr] at h
        obtain ⟨l, j, r, hl, hc⟩ := evalConds_error kind obj ev rest (i + 1) _ rs' e h
        exact ⟨.cond kind obj.id i ev (some true) :: l, j, r, by rw [hl]; simp, hc⟩

theorem evalContract_error (kind : CondKind) (obj : Obj) (ev : Option Event) (rs rs' : RS σ ω) (e : Err)
    (h : evalContract env kind obj ev rs = (.error e, rs')) :
    ∃ l j r, rs'.eff = rs.eff ++ l ++ [.cond kind obj.id j ev r] ∧
      (r = none ∧ e = .codeError ∨ r = some false ∧ ∃ c, e = kind.err obj.id c) := by
  unfold evalContract at h
  split at h
  · exact (pure_error.mp h).elim
  · rcases bind_error.mp h with h | ⟨a, r1, h1, h⟩
    · split at h
      · simp [M.modify] at h
      · exact (pure_error.mp h).elim
    · have : r1.eff = rs.eff := by
        split at h1
        · rw [modify_ok.mp h1]
        · rw [(pure_ok.mp h1).2]
      rw [← this]
      exact evalConds_error env kind obj ev _ 0 r1 rs' e h

/-- a property that holds of the interpreter's own exceptions and of the listeners', wherever they
    are raised, holds of all that `execute_once` raises once it holds at contract evaluation -/
theorem raises_of_class (hd : ListenerErrs env) (P : Err → RS σ ω → Prop) (hplain : ∀ e, e.plain = true → ∀ rs, P e rs)
    (hlistener : ∀ e, e.fromListener = true → ∀ rs, P e rs)
    (hcontract : ∀ kind obj ev, ErrSpec P (evalContract env kind obj ev)) : Raises env P where
  plain := hplain
  raise m := ⟨fun rs e rs' h => hlistener e (raiseMeta_error env hd m rs rs' e h).1 rs'⟩
  contract := hcontract

theorem raisedAt_raises (hd : ListenerErrs env) : Raises env (RaisedAt : Err → RS σ ω → Prop) where
  plain e he rs := by cases e <;> simp [Err.plain] at he <;> trivial
  raise m := ⟨fun rs e rs' h => by
    obtain ⟨hl, heff⟩ := raiseMeta_error env hd m rs rs' e h
    have hlast : rs'.eff.getLast? = some (.metaEv m) := by rw [heff]; simp
    cases e <;> simp [Err.fromListener] at hl <;> exact ⟨m, hlast⟩⟩
  contract kind obj ev := ⟨fun rs e rs' h => by
    obtain ⟨l, j, r, hl, hc⟩ := evalContract_error env kind obj ev rs rs' e h
    have hlast : rs'.eff.getLast? = some (.cond kind obj.id j ev r) := by rw [hl]; simp
    rcases hc with ⟨rfl, rfl⟩ | ⟨rfl, c, rfl⟩
    · trivial
    · cases kind <;> exact ⟨j, ev, hlast⟩⟩

theorem executeOnce_raisedAt (hd : ListenerErrs env) (clock : Int) (rs rs' : RS σ ω) (e : Err)
    (h : executeOnce env clock rs = (.error e, rs')) : RaisedAt e rs' :=
  (es_executeOnce (raisedAt_raises env hd) (fun _ => trivial) (fun _ => trivial) clock).spec rs e rs' h

end Sismic
