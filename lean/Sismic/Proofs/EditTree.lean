import Sismic.Proofs.Rename
/-!
# Sismic.Proofs.EditTree — the editing operations keep the three dictionaries consistent (`Tidy`)
-/
namespace Sismic
open Chart

/-! ### lookups in the chart with one more state -/

section Added
variable (c : Chart) (s : StateDef) (p : Option Name) (ht : Tidy c) (hfresh : c.hasState s.name = false)
include ht hfresh

theorem added_parentFor (n : Name) :
    (addedChart c s p).parentFor n = if n = s.name then p else c.parentFor n := by
  unfold Chart.parentFor addedChart
  dsimp only
  rw [find?_append_key s.name n p c.parent (ht.fresh hfresh).2.1]
  by_cases hn : n = s.name
  · rw [if_pos hn, if_pos hn]
  · rw [if_neg hn, if_neg hn]

theorem added_childrenFor (n : Name) (hp : ∀ par, p = some par → c.hasState par = true) :
    (addedChart c s p).childrenFor n =
      if p = some n then c.childrenFor n ++ [s.name] else if n = s.name then [] else c.childrenFor n := by
  have hk := (ht.fresh hfresh).2.2.1
  unfold Chart.childrenFor addedChart
  dsimp only
  by_cases hpn : p = some n
  · -- the parent is a state, so it has an entry, and it is not the new name
    subst hpn
    have hsn : c.hasState n = true := hp n rfl
    have hne : (some n : Option Name) ≠ some s.name := fun e => by
      rw [Option.some.inj e, hfresh] at hsn; cases hsn
    obtain ⟨e, he⟩ := find?_some_of_key (ht.statesHaveChildEntry n hsn)
    rw [find?_assocModify_same, find?_append_key _ _ _ _ hk, if_neg hne, if_pos rfl, he]
    rfl
  · rw [find?_assocModify_ne p (some n) _ hpn, find?_append_key _ _ _ _ hk, if_neg hpn]
    by_cases hn : n = s.name
    · rw [if_pos (by rw [hn]), if_pos hn]
    · rw [if_neg (fun e => hn (Option.some.inj e)), if_neg hn]

end Added

theorem root_none_iff (c : Chart) : c.root = none ↔ ∀ e ∈ c.parent, e.2 ≠ none := by
  unfold Chart.root
  constructor
  · intro h e he hn
    cases hf : c.parent.find? (fun p => p.2 == none) with
    | some x => rw [hf] at h; cases h
    | none =>
      rw [List.find?_eq_none] at hf
      exact hf e he (by simp [hn])
  · intro h
    cases hf : c.parent.find? (fun p => p.2 == none) with
    | none => rfl
    | some x =>
      exfalso
      have := List.find?_some hf
      exact h x (List.mem_of_find?_eq_some hf) (by simpa using this)

theorem addedChart_tidy (c : Chart) (s : StateDef) (p : Option Name) (ht : Tidy c) (hfresh : c.hasState s.name = false)
    (hroot : p = none → c.root = none) (hp : ∀ par, p = some par → c.hasState par = true) :
    Tidy (addedChart c s p) := by
  obtain ⟨hk1, _, _, hb1, hb2⟩ := ht.fresh hfresh
  have PF := added_parentFor c s p ht hfresh
  have CF := fun n => added_childrenFor c s p ht hfresh n hp
  have hpne : ∀ par, p = some par → par ≠ s.name := fun par e e' => by
    have := hp par e; rw [e', hfresh] at this; cases this
  refine Tidy.of_keysOK ?_ ?_ ?_ ?_ ?_
  · show KeysOK ((c.states ++ [s]).map (·.name)) ((c.parent ++ [(s.name, p)]).map (·.1))
      ((assocModify p (· ++ [s.name]) (c.children ++ [(some s.name, [])])).map (·.1))
    rw [keys_assocModify, List.map_append, List.map_append, List.map_append]
    exact ht.keysOK.append hk1
  · -- one root
    intro e he e' he' h1 h2
    have he0 : e ∈ c.parent ++ [(s.name, p)] := he
    have he0' : e' ∈ c.parent ++ [(s.name, p)] := he'
    rw [List.mem_append, List.mem_singleton] at he0 he0'
    cases hpc : p with
    | some par =>
      have old : ∀ x, (x ∈ c.parent ∨ x = (s.name, p)) → x.2 = none → x ∈ c.parent := by
        intro x hx hn
        rcases hx with h | h
        · exact h
        · rw [h, hpc] at hn; cases hn
      exact ht.oneRoot e (old e he0 h1) e' (old e' he0' h2) h1 h2
    | none =>
      have hnone := (root_none_iff c).mp (hroot hpc)
      have new : ∀ x, (x ∈ c.parent ∨ x = (s.name, p)) → x.2 = none → x = (s.name, p) := by
        intro x hx hn
        rcases hx with h | h
        · exact absurd hn (hnone x h)
        · exact h
      rw [new e he0 h1, new e' he0' h2]
  · -- children ↔ parent: the new name is nobody's child and nobody's parent yet
    intro q ch
    rw [CF q, PF ch]
    by_cases hch : ch = s.name
    · rw [if_pos hch, hch]
      by_cases hpq : p = some q
      · rw [if_pos hpq]; simp [hpq]
      · rw [if_neg hpq]
        refine ⟨fun hm => ?_, fun e => absurd e hpq⟩
        split at hm
        · cases hm
        · exact absurd hm (hb2 q)
    · rw [if_neg hch, ← ht.childParent q ch]
      by_cases hpq : p = some q
      · rw [if_pos hpq, List.mem_append, List.mem_singleton]
        exact ⟨fun h => h.resolve_right hch, .inl⟩
      · rw [if_neg hpq]
        by_cases hq : q = s.name
        · rw [if_pos hq, hq]
          exact ⟨fun h => (nomatch h), fun h => absurd ((ht.childParent _ _).mp h) (hb1 ch)⟩
        · rw [if_neg hq]
  · -- no repetition among children
    intro q
    rw [CF q]
    by_cases hpq : p = some q
    · rw [if_pos hpq]
      exact nodup_concat_of_not_mem (ht.childrenNodup q) (hb2 q)
    · rw [if_neg hpq]
      split
      · exact List.nodup_nil
      · exact ht.childrenNodup q
  · intro n
    rw [PF n]
    by_cases hn : n = s.name
    · simp only [hn, if_true]
      intro e
      exact hpne s.name e rfl
    · simp only [hn, if_false]
      exact ht.noSelf n

theorem addState_tidy (c : Chart) (s : StateDef) (p : Option Name) (ht : Tidy c) (h : (c.addState s p).1 = .ok ()) :
    Tidy (c.addState s p).2 := by
  obtain ⟨he, hf, hr, hp⟩ := addState_ok c s p h
  rw [he]
  exact addedChart_tidy c s p ht hf hr hp

/-! ### `move_state` -/

theorem moveState_fields (c : Chart) (a b : Name) (h : (c.moveState a b).1 = .ok ()) :
    c.hasState a = true ∧ c.hasState b = true ∧ b ≠ a ∧
    (c.moveState a b).2.parent = Chart.moveState.assocSetP a (some b) c.parent ∧
    (c.moveState a b).2.children =
      assocModify (some b) (· ++ [a]) (assocModify (c.parentFor a) (fun l => l.erase a) c.children) := by
  obtain ⟨he, ha, hb, hd⟩ := moveState_ok c a b h
  rw [he]
  refine ⟨ha, hb, fun e => ?_, rfl, rfl⟩
  subst e
  simp at hd

theorem keys_assocSetP (k : Name) (v : Option Name) : ∀ (l : List (Name × Option Name)), k ∈ l.map (·.1) →
    (Chart.moveState.assocSetP k v l).map (·.1) = l.map (·.1)
  | [], h => by cases h
  | (k', v') :: r, h => by
    unfold Chart.moveState.assocSetP
    by_cases hk : k' = k
    · simp [hk]
    · have h1 : (k' == k) = false := by simp [hk]
      simp only [h1, Bool.false_eq_true, if_false, List.map_cons]
      rw [keys_assocSetP k v r]
      simp only [List.map_cons, List.mem_cons] at h
      rcases h with e | e
      · exact absurd e.symm hk
      · exact e

theorem assocSetP_eq (k : Name) (v : Option Name) : ∀ l, Chart.moveState.assocSetP k v l = assocSet k v l
  | [] => rfl
  | (k', v') :: r => by
    unfold Chart.moveState.assocSetP assocSet
    rw [assocSetP_eq k v r]

theorem mem_entry_of_perm_parent {c : Chart} {e : Name × Option Name}
    (hk : (c.parent.map (·.1)).Nodup) (he : e ∈ c.parent) : c.parentFor e.1 = e.2 := by
  unfold Chart.parentFor
  rw [find?_of_mem_key (fun (p : Name × Option Name) => p.1) hk he]

/-- the children of `q` once `a` is taken away from its parent -/
def Chart.without (c : Chart) (a q : Name) : List Name :=
  if c.parentFor a = some q then (c.childrenFor q).erase a else c.childrenFor q

theorem Tidy.mem_without {c : Chart} (ht : Tidy c) (a q ch : Name) :
    ch ∈ c.without a q ↔ ch ≠ a ∧ c.parentFor ch = some q := by
  unfold Chart.without
  split
  · rw [(ht.childrenNodup q).mem_erase_iff, ht.childParent]
  · next hp =>
    rw [ht.childParent]
    exact ⟨fun h => ⟨fun e => hp (e ▸ h), h⟩, fun h => h.2⟩

theorem Tidy.nodup_without {c : Chart} (ht : Tidy c) (a q : Name) : (c.without a q).Nodup := by
  unfold Chart.without
  split
  · exact (ht.childrenNodup q).erase a
  · exact ht.childrenNodup q

theorem without_sublist (c : Chart) (a q : Name) : (c.without a q).Sublist (c.childrenFor q) := by
  unfold Chart.without
  split
  · exact List.erase_sublist
  · exact List.Sublist.refl _

theorem moveState_parentFor (c : Chart) (a b : Name) (h : (c.moveState a b).1 = .ok ()) (x : Name) :
    (c.moveState a b).2.parentFor x = if x = a then some b else c.parentFor x := by
  have hp := (moveState_fields c a b h).2.2.2.1
  unfold Chart.parentFor
  rw [hp, assocSetP_eq, find?_assocSet]
  by_cases e : x = a
  · simp [e]
  · rw [beq_false_of_ne (Ne.symm e), if_neg e]; rfl

theorem moveState_tidy (c : Chart) (a b : Name) (ht : Tidy c) (h : (c.moveState a b).1 = .ok ()) :
    Tidy (c.moveState a b).2 := by
  obtain ⟨hha, hhb, hba, hpar, hch⟩ := moveState_fields c a b h
  obtain ⟨_, hnames, _⟩ := moveState_effect c a b h
  have hakey : a ∈ c.parent.map (·.1) := ht.statesHaveEntry a hha
  have PF := moveState_parentFor c a b h
  have CF : ∀ q, (c.moveState a b).2.childrenFor q =
      if q = b then c.without a q ++ [a] else c.without a q := by
    unfold Chart.without
    intro q
    have inner : (assocModify (c.parentFor a) (fun l => l.erase a) c.children).find? (fun e => e.1 == some q) =
        if c.parentFor a = some q then (c.children.find? (fun e => e.1 == some q)).map (fun e => (e.1, e.2.erase a))
        else c.children.find? (fun e => e.1 == some q) := by
      by_cases hp : c.parentFor a = some q
      · rw [hp]; simp only [if_true]; exact find?_assocModify_same _ _ _
      · simp only [hp, if_false]
        exact find?_assocModify_ne _ _ _ hp _
    unfold Chart.childrenFor
    rw [hch]
    by_cases hq : q = b
    · subst hq
      rw [find?_assocModify_same, inner]
      simp only [if_true]
      obtain ⟨e, he⟩ := find?_some_of_key (ht.statesHaveChildEntry q hhb)
      rw [he]
      by_cases hp : c.parentFor a = some q <;> simp [hp]
    · rw [find?_assocModify_ne (some b) (some q) _ (fun e => hq (Option.some.inj e).symm), inner]
      simp only [hq, if_false]
      by_cases hp : c.parentFor a = some q
      · simp only [hp, if_true]
        cases c.children.find? (fun e => e.1 == some q) <;> simp
      · simp only [hp, if_false]
  refine Tidy.of_keysOK ?_ ?_ ?_ ?_ ?_
  · rw [hnames, hpar, keys_assocSetP a (some b) c.parent hakey, hch, keys_assocModify, keys_assocModify]
    exact ht.keysOK
  · -- one root: an entry without parent is an old one
    have old : ∀ e ∈ (c.moveState a b).2.parent, e.2 = none → e ∈ c.parent := by
      intro e he hn
      rw [hpar, assocSetP_eq] at he
      exact (of_mem_assocSet _ _ _ _ he).resolve_left (fun e' => by rw [e'] at hn; cases hn)
    intro e he e' he' h1 h2
    exact ht.oneRoot e (old e he h1) e' (old e' he' h2) h1 h2
  · intro q ch
    rw [CF q, PF ch]
    by_cases hq : q = b
    · rw [if_pos hq, List.mem_append, List.mem_singleton, ht.mem_without]
      by_cases hca : ch = a
      · simp [hca, hq]
      · simp [hca]
    · rw [if_neg hq, ht.mem_without]
      by_cases hca : ch = a
      · simp [hca, Ne.symm hq]
      · simp [hca]
  · intro q
    rw [CF q]
    split
    · exact nodup_concat_of_not_mem (ht.nodup_without a q) (fun hm => ((ht.mem_without a q a).mp hm).1 rfl)
    · exact ht.nodup_without a q
  · intro n
    rw [PF n]
    by_cases hn : n = a
    · simp only [hn, if_true]
      exact fun e => hba (Option.some.inj e)
    · simp only [hn, if_false]; exact ht.noSelf n

/-! ### `remove_state` -/

theorem removeLeaf_tidy (c : Chart) (n : Name) (ht : Tidy c) (hleaf : c.childrenFor n = []) :
    Tidy (c.removeLeaf n) ∧
    (∀ m, (c.removeLeaf n).hasState m = (c.hasState m && m != n)) ∧
    (∀ q, ((c.removeLeaf n).childrenFor q).Sublist (c.childrenFor q)) ∧
    (∀ q, n ∉ (c.removeLeaf n).childrenFor q) := by
  obtain ⟨hst, hpar, hch, _⟩ := removeLeaf_fields c n
  have herP : assocErase n c.parent = c.parent.filter (fun p => p.1 != n) := by
    unfold assocErase; exact eraseFirst_eq_filter (fun (p : Name × Option Name) => p.1) n _ ht.parentKeys
  have herC : assocErase (some n) c.children = c.children.filter (fun p => p.1 != some n) := by
    unfold assocErase; exact eraseFirst_eq_filter (fun (p : Option Name × List Name) => p.1) (some n) _ ht.childKeys
  have hN : (c.removeLeaf n).states.map (·.name) = (c.states.map (·.name)).filter (· != n) := by
    rw [hst, map_key_filter (fun (s : StateDef) => s.name), List.map_map]
    congr 2; funext s; exact unref_name n s
  have HS : ∀ m, (c.removeLeaf n).hasState m = (c.hasState m && m != n) := by
    intro m
    rw [Bool.eq_iff_iff, hasState_iff_mem, hN, List.mem_filter, Bool.and_eq_true, hasState_iff_mem]
  have PF : ∀ m, (c.removeLeaf n).parentFor m = if m = n then none else c.parentFor m := by
    intro m
    unfold Chart.parentFor
    rw [hpar, herP]
    by_cases hm : m = n
    · subst hm; rw [find?_filter_key_same]; simp
    · rw [find?_filter_key_ne n m hm]; simp [hm]
  have CF : ∀ q, (c.removeLeaf n).childrenFor q = if q = n then [] else c.without n q := by
    unfold Chart.without
    intro q
    unfold Chart.childrenFor
    rw [hch, herC]
    by_cases hq : q = n
    · subst hq
      rw [find?_assocModify_ne _ _ _ (ht.noSelf q), find?_filter_key_same]
      simp
    · have hq' : (some q : Option Name) ≠ some n := fun e => hq (Option.some.inj e)
      simp only [hq, if_false]
      by_cases hp : c.parentFor n = some q
      · rw [hp, find?_assocModify_same, find?_filter_key_ne (some n) (some q) hq']
        simp only [if_true]
        cases c.children.find? (fun e => e.1 == some q) <;> simp
      · rw [find?_assocModify_ne _ _ _ hp, find?_filter_key_ne (some n) (some q) hq']
        simp only [hp, if_false]
  have sub : ∀ q, ((c.removeLeaf n).childrenFor q).Sublist (c.childrenFor q) := by
    intro q
    rw [CF q]
    split
    · exact List.nil_sublist _
    · exact without_sublist c n q
  have notin : ∀ q, n ∉ (c.removeLeaf n).childrenFor q := by
    intro q
    rw [CF q]
    split
    · exact List.not_mem_nil
    · exact fun hm => ((ht.mem_without n q n).mp hm).1 rfl
  refine ⟨Tidy.of_keysOK ?_ ?_ ?_ ?_ ?_, HS, sub, notin⟩
  · rw [hN, hpar, herP, hch, keys_assocModify, herC, map_key_filter (fun (p : Name × Option Name) => p.1),
      map_key_filter (fun (p : Option Name × List Name) => p.1)]
    exact ht.keysOK.filter n
  · intro e he e' he' h1 h2
    rw [hpar, herP] at he he'
    exact ht.oneRoot e (List.mem_filter.mp he).1 e' (List.mem_filter.mp he').1 h1 h2
  · intro q ch
    rw [CF q, PF ch]
    by_cases hq : q = n
    · -- `n` has no children
      have : c.parentFor ch ≠ some n := fun e => by
        have := (ht.childParent n ch).mpr e
        rw [hleaf] at this; cases this
      by_cases hca : ch = n
      · simp [hq, hca]
      · simp [hq, hca, this]
    · rw [if_neg hq, ht.mem_without]
      by_cases hca : ch = n
      · simp [hca]
      · simp [hca]
  · intro q
    exact List.Nodup.sublist (sub q) (ht.childrenNodup q)
  · intro m
    rw [PF m]
    by_cases hm : m = n
    · simp [hm]
    · simp only [hm, if_false]; exact ht.noSelf m

/-- what the removal of a subtree does to the rest, as far as the recursion needs it -/
structure Shrinks (c c' : Chart) : Prop where
  tidy : Tidy c'
  sub : ∀ q, (c'.childrenFor q).Sublist (c.childrenFor q)
  states : ∀ m, c'.hasState m = true → c.hasState m = true

theorem Shrinks.trans {a b c : Chart} (h1 : Shrinks a b) (h2 : Shrinks b c) : Shrinks a c :=
  ⟨h2.tidy, fun q => (h2.sub q).trans (h1.sub q), fun m h => h1.states m (h2.states m h)⟩

theorem Shrinks.refl {c : Chart} (ht : Tidy c) : Shrinks c c := ⟨ht, fun _ => List.Sublist.refl _, fun _ h => h⟩

/-- also when it raises half-way (it can, on dictionaries that do not form a tree) -/
theorem removeStateF_tidy : ∀ (f : Nat) (c : Chart) (n : Name), Tidy c →
    Shrinks c (removeStateF f c n).2 ∧
    ((removeStateF f c n).1 = .ok () → ∀ q, n ∉ (removeStateF f c n).2.childrenFor q)
  | 0, c, n, ht => by
    simp only [removeStateF]
    exact ⟨Shrinks.refl ht, fun h => by cases h⟩
  | f+1, c, n, ht => by
    unfold removeStateF
    split
    · exact ⟨Shrinks.refl ht, fun h => by cases h⟩
    have hgo : ∀ (l : List Name) (c0 : Chart), Tidy c0 →
        Shrinks c0 (removeStateF.go f c0 l).2 ∧
        ((removeStateF.go f c0 l).1 = .ok () → ∀ ch ∈ l, ∀ q, ch ∉ (removeStateF.go f c0 l).2.childrenFor q) := by
      intro l
      induction l with
      | nil =>
        intro c0 h0
        unfold removeStateF.go
        exact ⟨Shrinks.refl h0, fun _ ch hch => by cases hch⟩
      | cons ch rest ih =>
        intro c0 h0
        unfold removeStateF.go
        have h1 := removeStateF_tidy f c0 ch h0
        obtain ⟨res, c1, hx⟩ : ∃ res c1, removeStateF f c0 ch = (res, c1) := ⟨_, _, rfl⟩
        rw [hx] at h1
        simp only [hx] at h1 ⊢
        cases res with
        | error e => exact ⟨h1.1, fun h => by cases h⟩
        | ok u =>
          simp only at h1 ⊢
          obtain ⟨s2, n2⟩ := ih c1 h1.1.tidy
          refine ⟨h1.1.trans s2, ?_⟩
          intro hok x hxm q
          rcases List.mem_cons.mp hxm with e | e
          · subst e
            exact fun hm => h1.2 (by trivial) q ((s2.sub q).subset hm)
          · exact n2 hok x e q
    have h1 := hgo (c.childrenFor n) c ht
    obtain ⟨res, c1, hx⟩ : ∃ res c1, removeStateF.go f c (c.childrenFor n) = (res, c1) := ⟨_, _, rfl⟩
    rw [hx] at h1
    simp only [hx] at h1 ⊢
    cases res with
    | error e => exact ⟨h1.1, fun h => by cases h⟩
    | ok u =>
      simp only at h1 ⊢
      obtain ⟨s1, n1⟩ := h1
      have hleaf : c1.childrenFor n = [] := by
        cases hl : c1.childrenFor n with
        | nil => rfl
        | cons x xs =>
          exfalso
          have hx1 : x ∈ c1.childrenFor n := by rw [hl]; exact List.mem_cons_self
          exact n1 (by trivial) x ((s1.sub n).subset hx1) n hx1
      obtain ⟨t2, hs2, sub2, not2⟩ := removeLeaf_tidy c1 n s1.tidy hleaf
      refine ⟨s1.trans ⟨t2, sub2, ?_⟩, fun _ => not2⟩
      intro m hm
      rw [hs2, Bool.and_eq_true] at hm
      exact hm.1

theorem removeState_tidy (c : Chart) (n : Name) (ht : Tidy c) : Tidy (c.removeState n).2 :=
  (removeStateF_tidy _ c n ht).1.tidy

/-! ### `rename_state` -/

theorem rename_parentFor (c : Chart) (a b : Name) (ht : Tidy c) (h : (c.renameState a b).1 = .ok ()) (hne : a ≠ b)
    (n : Name) :
    (c.renameState a b).2.parentFor n =
      if n = a then none else if n = b then c.parentFor a
      else if c.parentFor n = some a then some b else c.parentFor n := by
  obtain ⟨hnb, _, _⟩ := renameState_states c a b h hne
  have hbp := (ht.fresh hnb).2.1
  have hkeys : ((c.parent.map (fun p => (p.1, if p.2 == some a then some b else p.2))).map
      (fun (p : Name × Option Name) => p.1)).Nodup := by rw [List.map_map]; exact ht.parentKeys
  rw [Chart.parentFor, (renameState_fields c a b h hne).1, renamed_pn c a b ht]
  unfold assocErase Chart.reparented
  dsimp only
  rw [eraseFirst_eq_filter (fun (p : Name × Option Name) => p.1) a _ hkeys,
    find?_filter_append_key a b n _ _ (Ne.symm hne) (by rw [List.map_map]; exact hbp)]
  by_cases hna : n = a
  · rw [if_pos hna, if_pos hna]
  rw [if_neg hna, if_neg hna]
  by_cases hnb' : n = b
  · rw [if_pos hnb', if_pos hnb']
  rw [if_neg hnb', if_neg hnb', find?_map_key (key := fun (p : Name × Option Name) => p.1)
    (fun p => (p.1, if p.2 == some a then some b else p.2)) (fun _ => rfl) n]
  unfold Chart.parentFor
  cases hf : c.parent.find? (fun p => p.1 == n) with
  | none => rfl
  | some x =>
    obtain ⟨k, v⟩ := x
    by_cases hv : v = some a <;> simp [hv]

theorem renameState_tidy (c : Chart) (a b : Name) (ht : Tidy c) (h : (c.renameState a b).1 = .ok ()) :
    Tidy (c.renameState a b).2 := by
  by_cases hne : a = b
  · subst hne; rw [rename_same_is_noop]; exact ht
  obtain ⟨hnb, hha, hst⟩ := renameState_states c a b h hne
  have hperm := rename_is_substitution c a b ht h hne
  have PF := rename_parentFor c a b ht h hne
  have CF := rename_childrenFor c a b ht h hne
  obtain ⟨hbn, hbp, hbc, b_no_children, b_not_child⟩ := ht.fresh hnb
  -- the keys: those of `a` go, those of `b` come
  have hN := renameState_names c a b h hne
  have hP : (c.renameState a b).2.parent.map (·.1) = (c.parent.map (·.1)).filter (· != a) ++ [b] := by
    have hkeys : ((c.parent.map (fun p => (p.1, if p.2 == some a then some b else p.2))).map
        (fun (p : Name × Option Name) => p.1)).Nodup := by rw [List.map_map]; exact ht.parentKeys
    rw [(renameState_fields c a b h hne).1]
    simp only [List.map_append, List.map_cons, List.map_nil]
    unfold assocErase Chart.reparented
    dsimp only
    rw [eraseFirst_eq_filter (fun (p : Name × Option Name) => p.1) a _ hkeys,
      map_key_filter (fun (p : Name × Option Name) => p.1), List.map_map]
    rfl
  have hC : (c.renameState a b).2.children.map (·.1) =
      (c.children.map (·.1)).filter (· != some a) ++ [some b] := by
    have hkeys : ((assocModify (c.parentFor a) (fun l => l.erase a ++ [b]) c.children).map
        (fun (p : Option Name × List Name) => p.1)).Nodup := by rw [keys_assocModify]; exact ht.childKeys
    rw [(renameState_fields c a b h hne).2, relisted_children c a b ht]
    simp only [List.map_append, List.map_cons, List.map_nil]
    unfold assocErase
    rw [eraseFirst_eq_filter (fun (p : Option Name × List Name) => p.1) (some a) _ hkeys,
      map_key_filter (fun (p : Option Name × List Name) => p.1), keys_assocModify]
  refine Tidy.of_keysOK ?_ ?_ ?_ ?_ ?_
  · rw [hN, hP, hC]
    exact (ht.keysOK.filter a).append (fun hm => hbn (List.mem_filter.mp hm).1)
  · -- one root
    intro e he e' he' h1 h2
    have m1 := hperm.parent.mem_iff.mp he
    have m2 := hperm.parent.mem_iff.mp he'
    obtain ⟨x, hx, rfl⟩ := List.mem_map.mp m1
    obtain ⟨x', hx', rfl⟩ := List.mem_map.mp m2
    have n1 : x.2 = none := by cases hx2 : x.2 with | none => rfl | some v => simp [hx2] at h1
    have n2 : x'.2 = none := by cases hx2 : x'.2 with | none => rfl | some v => simp [hx2] at h2
    rw [ht.oneRoot x hx x' hx' n1 n2]
  · -- children ↔ parent
    intro q ch
    rw [CF q, PF ch]
    by_cases hqa : q = a
    · subst hqa
      simp only [if_true, List.not_mem_nil, false_iff]
      by_cases hc1 : ch = q
      · simp [hc1]
      · rw [if_neg hc1]
        by_cases hc2 : ch = b
        · rw [if_pos hc2]; exact ht.noSelf q
        · rw [if_neg hc2]
          by_cases hp : c.parentFor ch = some q
          · rw [if_pos hp]; exact fun e => hne (Option.some.inj e).symm
          · simp [hp]
    · rw [if_neg hqa]
      by_cases hqb : q = b
      · subst hqb
        simp only [if_true]
        rw [ht.childParent a ch]
        by_cases hc1 : ch = a
        · subst hc1
          simp only [if_true]
          constructor
          · intro e; exact absurd e (ht.noSelf ch)
          · intro e; cases e
        · rw [if_neg hc1]
          by_cases hc2 : ch = q
          · subst hc2
            simp only [if_true]
            constructor
            · intro e; exact absurd (key_of_parentFor c ch a e) hbp
            · intro e; exact absurd e (b_no_children a)
          · rw [if_neg hc2]
            by_cases hp : c.parentFor ch = some a
            · simp [hp]
            · simp only [hp, if_false, false_iff]
              exact b_no_children ch
      · rw [if_neg hqb]
        by_cases hc1 : ch = a
        · subst hc1
          simp only [if_true]
          constructor
          · intro hm
            exfalso
            by_cases hp : c.parentFor ch = some q
            · simp only [hp, if_true, List.mem_append, List.mem_singleton] at hm
              rcases hm with hm | hm
              · exact ((List.Nodup.mem_erase_iff (ht.childrenNodup q)).mp hm).1 rfl
              · exact hne hm
            · rw [if_neg hp] at hm
              exact hp ((ht.childParent q ch).mp hm)
          · intro e; cases e
        · rw [if_neg hc1]
          by_cases hc2 : ch = b
          · subst hc2
            simp only [if_true]
            by_cases hp : c.parentFor a = some q
            · simp [hp]
            · simp only [hp, if_false, iff_false]
              exact b_not_child q
          · rw [if_neg hc2]
            have hmem : ch ∈ (if c.parentFor a = some q then (c.childrenFor q).erase a ++ [b] else c.childrenFor q) ↔
                ch ∈ c.childrenFor q := by
              by_cases hp : c.parentFor a = some q
              · simp only [hp, if_true, List.mem_append, List.mem_singleton, hc2, or_false]
                exact List.mem_erase_of_ne hc1
              · rw [if_neg hp]
            rw [hmem, ht.childParent q ch]
            by_cases hp : c.parentFor ch = some a
            · rw [if_pos hp, hp]
              constructor
              · intro e; exact absurd (Option.some.inj e).symm hqa
              · intro e; exact absurd (Option.some.inj e).symm hqb
            · rw [if_neg hp]
  · -- no repetition
    intro q
    rw [CF q]
    by_cases hqa : q = a
    · simp [hqa]
    · rw [if_neg hqa]
      by_cases hqb : q = b
      · rw [if_pos hqb]; exact ht.childrenNodup a
      · rw [if_neg hqb]
        by_cases hp : c.parentFor a = some q
        · rw [if_pos hp]
          refine List.nodup_append.mpr ⟨(ht.childrenNodup q).erase a, by simp, ?_⟩
          intro x hx y hy
          rw [List.mem_singleton] at hy
          subst hy
          exact fun e => b_not_child q (e ▸ (List.mem_of_mem_erase hx))
        · rw [if_neg hp]; exact ht.childrenNodup q
  · intro n
    rw [PF n]
    by_cases hna : n = a
    · simp [hna]
    · rw [if_neg hna]
      by_cases hnb' : n = b
      · rw [if_pos hnb', hnb']; exact b_no_children a
      · rw [if_neg hnb']
        by_cases hp : c.parentFor n = some a
        · rw [if_pos hp]; exact fun e => hnb' (Option.some.inj e).symm
        · rw [if_neg hp]; exact ht.noSelf n

/-! ### every operation, every session -/

theorem tidy_of_same_dicts {c c' : Chart} (ht : Tidy c) (hs : c'.states = c.states) (hp : c'.parent = c.parent)
    (hc : c'.children = c.children) : Tidy c' := by
  have PF : ∀ n, c'.parentFor n = c.parentFor n := fun n => by simp [Chart.parentFor, hp]
  have CF : ∀ n, c'.childrenFor n = c.childrenFor n := fun n => by simp [Chart.childrenFor, hc]
  exact Tidy.of_keysOK (by rw [hs, hp, hc]; exact ht.keysOK) (by rw [hp]; exact ht.oneRoot)
    (fun q ch => by rw [CF, PF]; exact ht.childParent q ch) (fun q => by rw [CF]; exact ht.childrenNodup q)
    (fun n => by rw [PF]; exact ht.noSelf n)

theorem applyEdit_tidy (c : Chart) (op : EditOp) (ht : Tidy c) : Tidy (c.applyEdit op).2 :=
  applyEdit_preserves_dicts c op (fun _ => tidy_of_same_dicts ht rfl rfl rfl) (fun s p _ => addState_tidy c s p ht) (removeState_tidy c · ht)
    (renameState_tidy c · · ht) (moveState_tidy c · · ht)

theorem applyEdits_tidy (ops : List EditOp) (c : Chart) (ht : Tidy c) : Tidy (c.applyEdits ops) :=
  applyEdits_preserves applyEdit_tidy ops c ht

/-- the dictionaries of `Statechart(name, description, preamble)` -/
theorem empty_tidy' (nm : String) (d : Option String) (pr : Option Code) :
    Tidy ({ name := nm, description := d, preamble := pr, children := [(none, [])] } : Chart) := by
  refine ⟨List.nodup_nil, List.nodup_nil, by simp, ?_, ?_, ?_, ?_, ?_, ?_, ?_, ?_⟩
  · intro k hk; cases hk
  · intro k hk; simp [Chart.hasState, Chart.stateFor] at hk
  · intro k hk; simp at hk
  · intro k hk; simp [Chart.hasState, Chart.stateFor] at hk
  · intro e he; cases he
  · intro q ch; simp [Chart.childrenFor, Chart.parentFor]
  · intro q; simp [Chart.childrenFor]
  · intro n; simp [Chart.parentFor]

end Sismic
