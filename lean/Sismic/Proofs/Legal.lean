import Sismic.Proofs.Desc
import Sismic.Proofs.C06
import Sismic.Proofs.C03
import Sismic.Proofs.C01
import Sismic.Spec.Run
import Sismic.Spec.Legal
/-!
# Sismic.Proofs.Legal — C02: legality of the configuration as an invariant (set-level reasoning
over the list-level model)
-/
namespace Sismic

/-! ### the configuration after a micro step, as a set -/

theorem mem_foldl_exitPure (c : Chart) (cfg0 : List Name) (x : Name) :
    ∀ (ex : List Name) (cm : List Name × List (Name × List Name)),
      x ∈ (ex.foldl (exitPure c cfg0) cm).1 ↔ x ∈ cm.1 ∧ x ∉ ex
  | [], cm => by simp
  | n :: ex, cm => by
    simp only [List.foldl_cons]
    rw [mem_foldl_exitPure c cfg0 x ex]
    simp only [exitPure, List.mem_filter, bne_iff_ne, ne_eq, List.mem_cons, not_or]
    constructor
    · rintro ⟨⟨h1, h2⟩, h3⟩; exact ⟨h1, h2, h3⟩
    · rintro ⟨h1, h2, h3⟩; exact ⟨⟨h1, h2⟩, h3⟩

theorem nodup_foldl_exitPure (c : Chart) (cfg0 : List Name) (ex : List Name)
    (cm : List Name × List (Name × List Name)) (h : cm.1.Nodup) : (ex.foldl (exitPure c cfg0) cm).1.Nodup :=
  foldl_inv (f := exitPure c cfg0) (P := fun cm => cm.1.Nodup) (fun _ _ h => List.Pairwise.filter _ h) ex cm h

theorem mem_enterPure (cfg : List Name) (n x : Name) : x ∈ enterPure cfg n ↔ x ∈ cfg ∨ x = n := by
  unfold enterPure
  split
  · next h => exact ⟨Or.inl, fun h' => h'.elim id fun e => e ▸ List.contains_iff_mem.mp h⟩
  · rw [List.mem_append, List.mem_singleton]

theorem mem_foldl_enterPure (x : Name) : ∀ (en cfg : List Name),
    x ∈ en.foldl enterPure cfg ↔ x ∈ cfg ∨ x ∈ en
  | [], cfg => by simp
  | n :: en, cfg => by
    rw [List.foldl_cons, mem_foldl_enterPure x en, mem_enterPure, List.mem_cons, or_assoc]

theorem nodup_foldl_enterPure (en cfg : List Name) (h : cfg.Nodup) : (en.foldl enterPure cfg).Nodup := by
  refine foldl_inv (P := List.Nodup) (fun cfg n h => ?_) en cfg h
  unfold enterPure
  split
  · exact h
  · next hc =>
    refine List.nodup_append.mpr ⟨h, List.pairwise_singleton _ n, fun a ha b hb => ?_⟩
    cases List.mem_singleton.mp hb
    exact fun e => hc (List.contains_iff_mem.mpr (e ▸ ha))

theorem mem_applyMicro (c : Chart) (cm : List Name × List (Name × List Name)) (m : Micro) (x : Name) :
    x ∈ (applyMicro c cm m).1 ↔ (x ∈ cm.1 ∧ x ∉ m.exited) ∨ x ∈ m.entered := by
  simp only [applyMicro]
  rw [mem_foldl_enterPure, mem_foldl_exitPure]

theorem nodup_applyMicro (c : Chart) (cm : List Name × List (Name × List Name)) (m : Micro)
    (h : cm.1.Nodup) : (applyMicro c cm m).1.Nodup := by
  simp only [applyMicro]
  exact nodup_foldl_enterPure _ _ (nodup_foldl_exitPure c cm.1 m.exited cm h)

/-! ### semi-legal configurations -/

/-- legal except that default entry may still be pending: compound states may have no active child
    yet, orthogonal states may miss regions, history states may be active -/
structure Semi (c : Chart) (cfg : List Name) : Prop where
  root : ∀ r, c.root = some r → r ∈ cfg
  state : ∀ s ∈ cfg, c.hasState s = true
  up : ∀ s ∈ cfg, ∀ p, c.parentFor s = some p → p ∈ cfg
  compound : ∀ z ∈ cfg, c.kindOf z = some .compound →
    ∀ a b, c.parentFor a = some z → c.parentFor b = some z → a ∈ cfg → b ∈ cfg → a = b
  nodup : cfg.Nodup

theorem Semi.up_anc {c : Chart} {cfg : List Name} (h : Semi c cfg) {a s : Name} (ha : Anc c a s)
    (hs : s ∈ cfg) : a ∈ cfg := by
  induction ha with
  | base hp => exact h.up _ hs _ hp
  | step hp _ ih => exact ih (h.up _ hs _ hp)

theorem Semi.up_sub {c : Chart} {cfg : List Name} (h : Semi c cfg) {a s : Name} (ha : Sub c a s)
    (hs : s ∈ cfg) : a ∈ cfg :=
  ha.elim (fun e => e ▸ hs) (fun e => h.up_anc e hs)

theorem Semi.below_active_child {c : Chart} {cfg : List Name} (hS : Semi c cfg) {p ch x : Name}
    (hp : c.parentFor ch = some p) (hk : c.kindOf p = some .compound) (hch : ch ∈ cfg) (hx : x ∈ cfg)
    (hax : Anc c p x) : Sub c ch x := by
  obtain ⟨k, hkp, hsub⟩ := Anc.child_of hax
  rw [← hS.compound p (hS.up ch hch p hp) hk k ch hkp hp (hS.up_sub hsub hx) hch]
  exact hsub

theorem Semi.congr {c : Chart} {cfg cfg' : List Name} (h : Semi c cfg) (hn : cfg'.Nodup)
    (hm : ∀ x, x ∈ cfg' ↔ x ∈ cfg) : Semi c cfg' :=
  ⟨fun r hr => (hm r).mpr (h.root r hr), fun s hs => h.state s ((hm s).mp hs),
   fun s hs p hp => (hm p).mpr (h.up s ((hm s).mp hs) p hp),
   fun z hz hk a b ha hb haa hbb => h.compound z ((hm z).mp hz) hk a b ha hb ((hm a).mp haa) ((hm b).mp hbb), hn⟩

/-- what satisfies `Ex` goes, what satisfies `En` comes -/
theorem Semi.replace {c : Chart} {cfg cfg' : List Name} (hS : Semi c cfg) (Ex En : Name → Prop)
    (hm : ∀ x, x ∈ cfg' ↔ (x ∈ cfg ∧ ¬ Ex x) ∨ En x) (hn : cfg'.Nodup)
    (root : ∀ r, c.root = some r → ¬ Ex r)
    (state : ∀ x, En x → c.hasState x = true)
    (keepUp : ∀ s p, s ∈ cfg → ¬ Ex s → c.parentFor s = some p → ¬ Ex p)
    (enUp : ∀ s p, En s → c.parentFor s = some p → (p ∈ cfg ∧ ¬ Ex p) ∨ En p)
    (clash : ∀ z a b, c.kindOf z = some .compound → c.parentFor a = some z → c.parentFor b = some z →
      a ∈ cfg → ¬ Ex a → En b → a = b)
    (enUniq : ∀ z a b, c.kindOf z = some .compound → c.parentFor a = some z → c.parentFor b = some z →
      En a → En b → a = b) : Semi c cfg' := by
  refine ⟨fun r hr => (hm r).mpr (Or.inl ⟨hS.root r hr, root r hr⟩), ?_, ?_, ?_, hn⟩
  · intro s hs
    exact ((hm s).mp hs).elim (fun h1 => hS.state s h1.1) (state s)
  · intro s hs p hp
    rcases (hm s).mp hs with h1 | h1
    · exact (hm p).mpr (Or.inl ⟨hS.up s h1.1 p hp, keepUp s p h1.1 h1.2 hp⟩)
    · exact (hm p).mpr (enUp s p h1 hp)
  · intro z _ hk a b ha hb haa hbb
    rcases (hm a).mp haa with h1 | h1 <;> rcases (hm b).mp hbb with h2 | h2
    · exact hS.compound z (hS.up a h1.1 z ha) hk a b ha hb h1.1 h2.1
    · exact clash z a b hk ha hb h1.1 h1.2 h2
    · exact (clash z b a hk hb ha h2.1 h2.2 h1).symm
    · exact enUniq z a b hk ha hb h1 h2

end Sismic

namespace Sismic

/-! ### general tree facts under `WFChart` -/

theorem kindOf_some_of_hasState (c : Chart) (n : Name) (h : c.hasState n = true) : ∃ k, c.kindOf n = some k := by
  simp only [Chart.hasState, Option.isSome_iff_exists] at h
  obtain ⟨s, hs⟩ := h
  exact ⟨s.kind, by simp [Chart.kindOf, hs]⟩

theorem hasState_of_kindOf (c : Chart) (n : Name) (k : Kind) (h : c.kindOf n = some k) : c.hasState n = true := by
  simp only [Chart.kindOf, Option.map_eq_some_iff] at h
  obtain ⟨s, hs, _⟩ := h
  simp [Chart.hasState, hs]

theorem Kind.not_composite_of_history {k : Kind} (h : k.isHistory = true) : k.isComposite = false := by
  cases k <;> first | rfl | cases h

theorem no_children (c : Chart) (h : WFChart c) {s : Name} {k : Kind} (hk : c.kindOf s = some k)
    (hc : k.isComposite = false) (ch : Name) : c.parentFor ch ≠ some s := by
  intro hch
  rcases h.composite ch s hch with e | e <;> rw [hk] at e <;> cases e <;> cases hc

theorem root_anc (c : Chart) (h : WFChart c) (r : Name) (hr : c.root = some r) :
    ∀ s, c.hasState s = true → s ≠ r → Anc c r s := by
  refine h.tree.induction fun s ih hk hne => ?_
  obtain ⟨p, hp⟩ := h.nonroot s hk (by rw [hr]; exact fun e => hne (Option.some.inj e).symm)
  by_cases hpr : p = r
  · exact Anc.base (hpr ▸ hp)
  · exact Anc.step hp (ih p hp (h.parentState s p hp).2 hpr)

theorem hasState_of_sub (c : Chart) (h : WFChart c) {z t : Name} (hz : Sub c z t) (ht : c.hasState t = true) :
    c.hasState z = true := by
  rcases hz with e | e
  · exact e ▸ ht
  · obtain ⟨k, hk, _⟩ := Anc.child_of e
    exact (h.parentState _ _ hk).2

theorem leaf_spec (c : Chart) (h : WFChart c) (cfg : List Name) (n : Name) (hl : n ∈ c.leafFor cfg) :
    n ∈ cfg ∧ ∀ ch, c.parentFor ch = some n → ch ∉ cfg := by
  simp only [Chart.leafFor, List.mem_filter, Bool.not_eq_true', List.any_eq_false, List.contains_iff_mem] at hl
  refine ⟨hl.1, ?_⟩
  intro ch hp hc
  have := hl.2 ch ((mem_descendants' c h n ch).mpr (Anc.base hp))
  simp [hc] at this

/-! ### stabilisation steps keep the configuration semi-legal -/

/-- entering children `R` of an active state `z`; if `z` is compound it had no active child and
    `R` is a single state -/
theorem semi_enter_children (c : Chart) (h : WFChart c) {cfg cfg' : List Name} (hS : Semi c cfg)
    {z : Name} (hz : z ∈ cfg) (R : List Name) (hR : ∀ x ∈ R, c.parentFor x = some z)
    (hu : c.kindOf z = some .compound →
      (∀ ch, c.parentFor ch = some z → ch ∉ cfg) ∧ ∀ a ∈ R, ∀ b ∈ R, a = b)
    (hm : ∀ x, x ∈ cfg' ↔ x ∈ cfg ∨ x ∈ R) (hn : cfg'.Nodup) : Semi c cfg' := by
  have inR : ∀ {w d}, c.parentFor d = some w → d ∈ R → w = z := fun hd hdR =>
    Option.some.inj (hd.symm.trans (hR _ hdR))
  refine hS.replace (fun _ => False) (· ∈ R) (fun x => by rw [hm x, not_false_eq_true, and_true]) hn
    (fun _ _ => id) (fun x hx => (h.parentState x z (hR x hx)).1) (fun _ _ _ _ _ => id) ?_ ?_ ?_
  · intro s p hs hp
    cases inR hp hs
    exact Or.inl ⟨hz, id⟩
  · intro w a b hkw ha hb hac _ hbR
    cases inR hb hbR
    exact absurd hac ((hu hkw).1 a ha)
  · intro w a b hkw ha _ haR hbR
    cases inR ha haR
    exact (hu hkw).2 a haR b hbR

end Sismic

namespace Sismic

/-- what a history memory must look like to be re-entered under the compound state `p` -/
structure GoodMem (c : Chart) (p : Name) (M : List Name) : Prop where
  below : ∀ x ∈ M, Anc c p x ∧ c.hasState x = true
  up : ∀ x ∈ M, ∀ q, c.parentFor x = some q → q = p ∨ q ∈ M
  compound : ∀ w, c.kindOf w = some .compound →
    ∀ a b, c.parentFor a = some w → c.parentFor b = some w → a ∈ M → b ∈ M → a = b

theorem semi_restore (c : Chart) (h : WFChart c) {cfg cfg' : List Name} (hS : Semi c cfg)
    {hs p : Name} (hh : hs ∈ cfg) (hp : c.parentFor hs = some p) (hkp : c.kindOf p = some .compound)
    (hnoch : ∀ ch, c.parentFor ch ≠ some hs) {M : List Name} (hM : GoodMem c p M)
    (hm : ∀ x, x ∈ cfg' ↔ (x ∈ cfg ∧ x ≠ hs) ∨ x ∈ M) (hn : cfg'.Nodup) : Semi c cfg' := by
  have hpc : p ∈ cfg := hS.up hs hh p hp
  have hpne : p ≠ hs := fun e => not_sub_parent c h.tree hp (Or.inl e)
  refine hS.replace (· = hs) (· ∈ M) hm hn ?_ (fun x hx => (hM.below x hx).2)
    (fun s _ _ _ hq e => hnoch s (e ▸ hq)) ?_ ?_ (fun w a b hkw ha hb => hM.compound w hkw a b ha hb)
  · intro r hr e
    obtain ⟨r', hr', hpr, _⟩ := h.root
    rw [hr] at hr'; cases hr'
    rw [e, hp] at hpr; cases hpr
  · intro s q hs' hq
    rcases hM.up s hs' q hq with e | e
    · rw [e]; exact Or.inl ⟨hpc, hpne⟩
    · exact Or.inr e
  · -- an old active child of `w` next to a restored one is impossible
    intro w a b hkw ha hb hac hane hbM
    exfalso
    have hwc : w ∈ cfg := hS.up a hac w ha
    rcases hM.up b hbM w hb with e | e
    · -- w = p: the active child of p is the history state
      subst e
      exact hane (hS.compound w hwc hkw a hs ha hp hac hh)
    · -- w is a restored state strictly below p: its branch below p is active, so it is the history state
      -- but the history state has no children
      rcases hS.below_active_child hp hkp hh hwc (hM.below w e).1 with e' | e'
      · exact hnoch a (e' ▸ ha)
      · obtain ⟨ch, hch, _⟩ := Anc.child_of e'
        exact hnoch ch hch

theorem semi_final_only (c : Chart) (h : WFChart c) {cfg : List Name} (hS : Semi c cfg)
    {leaf r : Name} (hr : c.root = some r) (hl : leaf ∈ cfg) (hp : c.parentFor leaf = some r)
    (hk : c.kindOf leaf = some .final) : ∀ x ∈ cfg, x = leaf ∨ x = r := by
  intro x hx
  by_cases hxr : x = r
  · exact Or.inr hxr
  left
  have hkr : c.kindOf r = some .compound := by
    rcases h.composite leaf r hp with e | e
    · exact e
    · have := h.regions r leaf .final e hp hk
      exact absurd this (by decide)
  have ha := root_anc c h r hr x (hS.state x hx) hxr
  rcases hS.below_active_child hp hkr hl hx ha with e | e
  · exact e
  · -- the final state would have a child
    obtain ⟨ch, hch, _⟩ := Anc.child_of e
    exact (no_children c h hk rfl ch hch).elim

end Sismic

namespace Sismic

/-! ### a transition step keeps the configuration semi-legal -/

theorem onPath_sub_y (c : Chart) (hT : TreeOK c) {t l y : Name} (yt : Sub c y t) (yp : c.parentFor y = some l)
    {z : Name} (hzt : Sub c z t) (hlz : Anc c l z) : Sub c y z := by
  obtain ⟨k, hk, hkz⟩ := Anc.child_of hlz
  rw [child_on_chain_unique c hT yp hk yt (Sub.trans' hkz hzt)]
  exact hkz

/-- The situation of `_create_steps` for an external transition `s → t` whose code-LCA is `l`:
    `x` is the child of `l` that is or contains the source, `y` the child of `l` that is or contains
    the target.  Everything active in the subtree of `x` is exited, the path from `y` down to `t` is
    entered. -/
theorem semi_transition (c : Chart) (h : WFChart c) {cfg cfg' : List Name} (hS : Semi c cfg)
    {s t l x y : Name} (xs : Sub c x s) (xp : c.parentFor x = some l) (yt : Sub c y t)
    (yp : c.parentFor y = some l) (ht : c.hasState t = true) (hs : s ∈ cfg)
    (hl : c.kindOf l = some .compound ∨ (c.kindOf l = some .orthogonal ∧ x = y))
    (hm : ∀ z, z ∈ cfg' ↔ (z ∈ cfg ∧ ¬ Sub c x z) ∨ (Sub c z t ∧ Anc c l z)) (hn : cfg'.Nodup) :
    Semi c cfg' := by
  have hT := h.tree
  have hx_act : x ∈ cfg := hS.up_sub xs hs
  have hl_act : l ∈ cfg := hS.up x hx_act l xp
  have hl_notsub : ¬ Sub c x l := not_sub_parent c hT xp
  have hy_act_eq : y ∈ cfg → y = x := by
    intro hy
    rcases hl with hk | ⟨_, he⟩
    · exact hS.compound l hl_act hk y x yp xp hy hx_act
    · exact he.symm
  refine hS.replace (Sub c x) (fun z => Sub c z t ∧ Anc c l z) hm hn ?_
    (fun z hz => hasState_of_sub c h hz.1 ht)
    (fun z p _ hnz hp hsub => hnz (sub_of_parent_sub hp hsub)) ?_ ?_
    (fun z a b _ ha hb h1 h2 => child_on_chain_unique c hT ha hb h1.1 h2.1)
  · intro r hr
    obtain ⟨r', hr', hpr, _⟩ := h.root
    rw [hr] at hr'; cases hr'
    rintro (e | e)
    · rw [e, xp] at hpr; cases hpr
    · cases e with
      | base hq | step hq _ => rw [hpr] at hq; cases hq
  · intro z p ⟨hzt, hlz⟩ hp
    have hpt : Anc c p t := hzt.elim (fun e => e ▸ Anc.base hp) (fun e => (Anc.base hp).trans e)
    rcases Anc.parent_cases' c hlz hp with e | e
    · exact Or.inl (e ▸ ⟨hl_act, hl_notsub⟩)
    · exact Or.inr ⟨Or.inr hpt, e⟩
  · intro z a b hk ha hb hact hcn hpath
    exfalso
    have hz_act : z ∈ cfg := hS.up a hact z ha
    rcases Anc.parent_cases' c hpath.2 hb with e | e
    · subst e
      rcases hl with hk' | ⟨hk', _⟩
      · exact hcn (Or.inl (hS.compound l hl_act hk' a x ha xp hact hx_act))
      · rw [hk'] at hk; cases hk
    · have hzt : Sub c z t :=
        Or.inr (hpath.1.elim (fun e' => e' ▸ Anc.base hb) (fun e' => (Anc.base hb).trans e'))
      have hzy : Sub c y z := onPath_sub_y c hT yt yp hzt e
      rw [hy_act_eq (hS.up_sub hzy hz_act)] at hzy
      exact hcn (sub_of_parent_sub ha hzy)

end Sismic

namespace Sismic

/-- only the path from the root to `t` is active (transition from or to the root state) -/
theorem semi_path (c : Chart) (h : WFChart c) {cfg' : List Name} {t : Name} (ht : c.hasState t = true)
    (hm : ∀ z, z ∈ cfg' ↔ Sub c z t) (hn : cfg'.Nodup) : Semi c cfg' := by
  have hT := h.tree
  refine ⟨?_, ?_, ?_, ?_, hn⟩
  · intro r hr
    by_cases e : t = r
    · exact (hm r).mpr (Or.inl e)
    · exact (hm r).mpr (Or.inr (root_anc c h r hr t ht e))
  · intro z hz
    exact hasState_of_sub c h ((hm z).mp hz) ht
  · intro z hz p hp
    refine (hm p).mpr (Or.inr ?_)
    rcases (hm z).mp hz with e | e
    · rw [e]; exact Anc.base hp
    · exact (Anc.base hp).trans e
  · intro z _ _ a b ha hb haa hbb
    exact child_on_chain_unique c hT ha hb ((hm a).mp haa) ((hm b).mp hbb)

/-- the configuration of a freshly initialised interpreter: the root alone -/
theorem semi_root (c : Chart) (h : WFChart c) (r : Name) (hr : c.root = some r) : Semi c [r] := by
  obtain ⟨r', hr', hpr, hst⟩ := h.root
  rw [hr] at hr'; cases hr'
  refine ⟨?_, ?_, ?_, ?_, by simp⟩
  · intro r' hr''; rw [hr] at hr''; cases hr''; simp
  · intro s hs; simp at hs; rw [hs]; exact hst
  · intro s hs p hp; simp at hs; rw [hs, hpr] at hp; cases hp
  · intro z hz _ a b ha hb haa hbb
    simp at haa hbb; rw [haa, hbb]

end Sismic

namespace Sismic

/-! ### the history memory stays re-enterable -/

/-- every recorded memory can be re-entered under the parent of its history state -/
def MemOK (c : Chart) (mem : List (Name × List Name)) : Prop :=
  ∀ hs k l, mem.find? (fun p => p.1 == hs) = some (k, l) → ∀ p, c.parentFor hs = some p → GoodMem c p l

theorem goodMem_filter (c : Chart) {cfg0 : List Name} (hS : Semi c cfg0) (n : Name) (f : Name → Bool)
    (below : ∀ x, f x = true → Anc c n x)
    (up : ∀ x q, f x = true → c.parentFor x = some q → q = n ∨ f q = true) :
    GoodMem c n (cfg0.filter f) := by
  refine ⟨?_, ?_, ?_⟩
  · intro x hx
    obtain ⟨hxc, hfx⟩ := List.mem_filter.mp hx
    exact ⟨below x hfx, hS.state x hxc⟩
  · intro x hx q hq
    obtain ⟨hxc, hfx⟩ := List.mem_filter.mp hx
    exact (up x q hfx hq).imp_right fun hfq => List.mem_filter.mpr ⟨hS.up x hxc q hq, hfq⟩
  · intro w hkw a b ha hb haa hbb
    have h1 := (List.mem_filter.mp haa).1
    exact hS.compound w (hS.up a h1 w ha) hkw a b ha hb h1 (List.mem_filter.mp hbb).1

theorem goodMem_deep (c : Chart) (h : WFChart c) {cfg0 : List Name} (hS : Semi c cfg0) (n : Name) :
    GoodMem c n (cfg0.filter (fun x => (c.descendants n).contains x)) := by
  have mem : ∀ x, (c.descendants n).contains x = true ↔ Anc c n x := fun x => by
    rw [List.contains_iff_mem, mem_descendants' c h n]
  exact goodMem_filter c hS n _ (fun x hx => (mem x).mp hx) fun x q hx hq =>
    (Sub.of_anc_child ((mem x).mp hx) hq).imp id (mem q).mpr

theorem goodMem_shallow (c : Chart) (h : WFChart c) {cfg0 : List Name} (hS : Semi c cfg0) (n : Name) :
    GoodMem c n (cfg0.filter (fun x => (c.childrenFor n).contains x)) := by
  have mem : ∀ x, (c.childrenFor n).contains x = true ↔ c.parentFor x = some n := fun x => by
    rw [List.contains_iff_mem, h.children n x]
  exact goodMem_filter c hS n _ (fun x hx => Anc.base ((mem x).mp hx)) fun x q hx hq =>
    Or.inl (Option.some.inj (hq.symm.trans ((mem x).mp hx)))

theorem find_saveMem (c : Chart) (cfg0 : List Name) (s : StateDef) (hs : Name) (k : Name) (l : List Name) :
    ∀ (rest : List Name) (mem : List (Name × List Name)),
      (saveMem c cfg0 s mem rest).find? (fun p => p.1 == hs) = some (k, l) →
      mem.find? (fun p => p.1 == hs) = some (k, l) ∨ (hs ∈ rest ∧ memoryOf c cfg0 s hs = .ok (some l))
  | [], mem, h => Or.inl h
  | ch :: rest, mem, h => by
    simp only [saveMem] at h
    split at h
    · next a ha =>
      rcases find_saveMem c cfg0 s hs k l rest _ h with h1 | h1
      · rw [find?_assocSet] at h1
        split at h1
        · next e =>
          cases h1; cases beq_iff_eq.mp e
          exact Or.inr ⟨List.mem_cons_self, ha⟩
        · exact Or.inl h1
      · exact Or.inr ⟨List.mem_cons_of_mem _ h1.1, h1.2⟩
    · rcases find_saveMem c cfg0 s hs k l rest _ h with h1 | h1
      · exact Or.inl h1
      · exact Or.inr ⟨List.mem_cons_of_mem _ h1.1, h1.2⟩

theorem memOK_exitPure (c : Chart) (h : WFChart c) {cfg0 : List Name} (hS : Semi c cfg0)
    (cm : List Name × List (Name × List Name)) (n : Name) (hM : MemOK c cm.2) :
    MemOK c (exitPure c cfg0 cm n).2 := by
  simp only [exitPure]
  split
  · next hk =>
    intro hs k l hf p hp
    rcases find_saveMem c cfg0 _ hs k l _ _ hf with h1 | ⟨hin, hmo⟩
    · exact hM hs k l h1 p hp
    · have hpn : c.parentFor hs = some n := (h.children n hs).mp hin
      rw [hpn] at hp; cases hp
      unfold memoryOf at hmo
      rw [stateD_name] at hmo
      split at hmo <;> (try split at hmo) <;> cases hmo
      · exact goodMem_deep c h hS _
      · exact goodMem_shallow c h hS _
  · exact hM

theorem memOK_applyMicro (c : Chart) (h : WFChart c) (cm : List Name × List (Name × List Name)) (m : Micro)
    (hS : Semi c cm.1) (hM : MemOK c cm.2) : MemOK c (applyMicro c cm m).2 := by
  simp only [applyMicro]
  exact foldl_inv (P := fun cm' => MemOK c cm'.2) (fun cm' n h' => memOK_exitPure c h hS cm' n h') m.exited cm hM

theorem mem_applyMicro_noexit (c : Chart) (cm : List Name × List (Name × List Name)) (m : Micro)
    (he : m.exited = []) : (applyMicro c cm m).2 = cm.2 := by
  simp [applyMicro, he]

end Sismic

namespace Sismic

/-! ### `_create_stabilization_step` -/

theorem kindOf_of_stateFor (c : Chart) (n : Name) (sd : StateDef) (h : c.stateFor n = some sd) :
    c.kindOf n = some sd.kind := by simp [Chart.kindOf, h]

theorem goodMem_single (c : Chart) (h : WFChart c) {p m0 : Name} (hp : c.parentFor m0 = some p) :
    GoodMem c p [m0] := by
  refine ⟨?_, ?_, ?_⟩
  · intro x hx; cases List.mem_singleton.mp hx; exact ⟨Anc.base hp, (h.parentState m0 p hp).1⟩
  · intro x hx q hq; cases List.mem_singleton.mp hx; exact Or.inl (Option.some.inj (hq.symm.trans hp))
  · intro w _ a b _ _ haa hbb; rw [List.mem_singleton.mp haa, List.mem_singleton.mp hbb]

/-- what a stabilisation step in configuration `cfg` is, in terms of the tree -/
inductive StabStep (c : Chart) (cfg : List Name) (m : Micro) : Prop
  /-- an active final child of the root: it and the root are exited -/
  | final (leaf r : Name) (hl : leaf ∈ cfg) (hr : c.root = some r) (hp : c.parentFor leaf = some r)
      (hk : c.kindOf leaf = some .final) (hex : m.exited = [leaf, r]) (hen : m.entered = [])
  /-- an active history state is replaced by a re-enterable memory -/
  | restore (leaf p : Name) (k : Kind) (M : List Name) (hl : leaf ∈ cfg) (hk : c.kindOf leaf = some k)
      (hh : k.isHistory = true) (hp : c.parentFor leaf = some p) (hkp : c.kindOf p = some .compound)
      (hM : GoodMem c p M) (hex : m.exited = [leaf]) (hen : ∀ x, x ∈ m.entered ↔ x ∈ M)
  /-- children of an active state `z` are entered: regions of an orthogonal state, or the initial
      state of a compound state none of whose children is active -/
  | enter (z : Name) (hz : z ∈ cfg) (hex : m.exited = []) (hen : ∀ x ∈ m.entered, c.parentFor x = some z)
      (hk : c.kindOf z = some .orthogonal ∨
        (c.kindOf z = some .compound ∧ (∀ ch, c.parentFor ch = some z → ch ∉ cfg) ∧ ∃ i, m.entered = [i]))

theorem stabilizationStep_shape (c : Chart) (h : WFChart c) {cfg : List Name} {mem : List (Name × List Name)}
    (hM : MemOK c mem) {m : Micro} (hstep : stabilizationStep c mem cfg = some m) : StabStep c cfg m := by
  unfold stabilizationStep at hstep
  split at hstep
  · next m' hf =>
    cases hstep
    obtain ⟨leaf, hleaf, hls⟩ := List.exists_of_findSome?_eq_some hf
    obtain ⟨hlc, hnoch⟩ := leaf_spec c h cfg leaf ((mem_isort _ _ _).mp hleaf)
    cases hsd : c.stateFor leaf with
    | none => unfold leafStep at hls; rw [hsd] at hls; cases hls
    | some sd =>
      have hkind := kindOf_of_stateFor c leaf sd hsd
      rw [leafStep_eq c mem hsd] at hls
      cases hk : sd.kind <;> rw [hk] at hls hkind <;> simp only at hls
      case basic => cases hls
      case compound =>
        obtain ⟨i, hi, hpi⟩ := h.initial leaf sd hsd hk
        rw [hi] at hls
        cases hls
        exact .enter leaf hlc rfl (fun x hx => by cases List.mem_singleton.mp hx; exact hpi)
          (Or.inr ⟨hkind, hnoch, i, rfl⟩)
      case orthogonal =>
        split at hls
        · cases hls
          exact .enter leaf hlc rfl (fun x hx => (h.children leaf x).mp ((mem_isort _ _ _).mp hx)) (Or.inl hkind)
        · cases hls
      case final =>
        split at hls
        · next hpr =>
          cases hls
          obtain ⟨r, hr, _, _⟩ := h.root
          rw [hr] at hpr
          exact .final leaf r hlc hr (beq_iff_eq.mp hpr) hkind (by rw [hr]; rfl) rfl
        · cases hls
      case shallow | deep =>
        cases hls
        obtain ⟨p, m0, hp, hkp, hmem0, hpm0, _⟩ := h.history leaf sd hsd (by rw [hk]; rfl)
        refine .restore leaf p _ _ hlc hkind rfl hp hkp ?_ rfl (fun x => mem_isort _ _ _)
        split
        · next k l hfind => exact hM leaf k l hfind p hp
        · rw [hmem0]; exact goodMem_single c h hpm0
  · obtain ⟨n, hn, hcs⟩ := List.exists_of_findSome?_eq_some hstep
    unfold completeStep at hcs
    split at hcs
    · next hk =>
      simp only at hcs
      split at hcs
      · cases hcs
      · cases hcs
        exact .enter n ((mem_isort _ _ _).mp hn) rfl
          (fun x hx => (h.children n x).mp (List.mem_filter.mp ((mem_isort _ _ _).mp hx)).1)
          (Or.inl (beq_iff_eq.mp hk))
    · cases hcs

/-- **a stabilisation step keeps the configuration semi-legal (or empties it: final)** -/
theorem stabilizationStep_semi (c : Chart) (h : WFChart c) {cfg : List Name} {mem : List (Name × List Name)}
    (hS : Semi c cfg) (hM : MemOK c mem) {m : Micro} (hstep : stabilizationStep c mem cfg = some m) :
    (applyMicro c (cfg, mem) m).1 = [] ∨ Semi c (applyMicro c (cfg, mem) m).1 := by
  have hn := nodup_applyMicro c (cfg, mem) m hS.nodup
  cases stabilizationStep_shape c h hM hstep with
  | final leaf r hl hr hp hk hex hen =>
    left
    rw [List.eq_nil_iff_forall_not_mem]
    intro x hx
    rw [mem_applyMicro, hex, hen] at hx
    simp only [List.mem_cons, List.not_mem_nil, or_false, not_or] at hx
    rcases semi_final_only c h hS hr hl hp hk x hx.1 with e | e
    · exact hx.2.1 e
    · exact hx.2.2 e
  | restore leaf p k M hl hk hh hp hkp hG hex hen =>
    right
    apply semi_restore c h hS hl hp hkp (no_children c h hk (Kind.not_composite_of_history hh)) hG _ hn
    intro x
    rw [mem_applyMicro, hex, hen, List.mem_singleton]
  | enter z hz hex hen hk =>
    right
    apply semi_enter_children c h hS hz m.entered hen _ _ hn
    · intro hkz
      rcases hk with e | ⟨_, hno, i, hi⟩
      · rw [e] at hkz; cases hkz
      · refine ⟨hno, ?_⟩
        rw [hi]
        intro a ha b hb
        rw [List.mem_singleton.mp ha, List.mem_singleton.mp hb]
    · intro x
      rw [mem_applyMicro, hex]
      simp only [List.not_mem_nil, not_false_eq_true, and_true]

end Sismic

namespace Sismic

/-! ### `_create_steps` -/

/-- without an LCA the walk up ends at the root -/
theorem lastBefore_none (c : Chart) (h : WFChart c) (r : Name) (hr : c.root = some r) :
    ∀ s, c.hasState s = true → lastBefore c s none = r := by
  unfold lastBefore
  refine h.tree.induction fun s ih hst => ?_
  rw [ancestors_unfold c h.tree s]
  cases hp : c.parentFor s with
  | none =>
    show s = r
    refine Decidable.byContradiction fun e => ?_
    obtain ⟨p, hp'⟩ := h.nonroot s hst (by rw [hr]; exact fun e' => e (Option.some.inj e').symm)
    rw [hp] at hp'; cases hp'
  | some p => exact ih p hp (h.parentState s p hp).2

theorem sub_root (c : Chart) (h : WFChart c) {r z : Name} (hr : c.root = some r) (hz : c.hasState z = true) :
    Sub c r z :=
  Decidable.byCases Or.inl fun e => Or.inr (root_anc c h r hr z hz e)

/-- what a transition step exits: the active part of the subtree of `lb` -/
theorem mem_exited (c : Chart) (h : WFChart c) (cfg0 : List Name) (lb z : Name) :
    z ∈ (isort c.leRevDepthName (c.descendants lb)).filter cfg0.contains ++
        (if cfg0.contains lb then [lb] else []) ↔ z ∈ cfg0 ∧ Sub c lb z := by
  simp only [List.mem_append, List.mem_filter, mem_isort, List.contains_iff_mem, mem_descendants' c h, Sub]
  constructor
  · rintro (⟨h1, h2⟩ | h1)
    · exact ⟨h2, Or.inr h1⟩
    · split at h1
      · next hc => cases List.mem_singleton.mp h1; exact ⟨hc, Or.inl rfl⟩
      · cases h1
  · rintro ⟨h1, e | e⟩
    · right; rw [e] at h1 ⊢; rw [if_pos h1]; exact List.mem_singleton_self _
    · exact Or.inl ⟨e, h1⟩

/-- a step planned in configuration `cfg0` and applied to `cfg`, which agrees with `cfg0` on the
    subtree the step exits -/
theorem createStep_semi_gen (c : Chart) (h : WFChart c) {cfg cfg0 : List Name} (mem : List (Name × List Name))
    (hS : Semi c cfg) {t : Trans} (ht : t ∈ c.transitions) (hs : t.source ∈ cfg) (ev : Option Event)
    (hag : ∀ tg, t.target = some tg → ∀ z, Sub c (lastBefore c t.source (c.lca t.source tg)) z →
      (z ∈ cfg ↔ z ∈ cfg0)) :
    Semi c (applyMicro c (cfg, mem) (createStep c cfg0 ev t)).1 := by
  have hn := nodup_applyMicro c (cfg, mem) (createStep c cfg0 ev t) hS.nodup
  obtain ⟨hsrc, htgt⟩ := h.transitions t ht
  unfold createStep at hn ⊢
  cases htg : t.target with
  | none =>
    simp only [htg] at hn ⊢
    exact hS.congr hn (fun x => by rw [mem_applyMicro]; simp)
  | some tg =>
    simp only [htg] at hn ⊢
    have htgs := htgt tg htg
    have hag := hag tg htg
    -- what is active and not exited stays; `hag` transfers membership in the exited subtree to `cfg0`
    have stay : ∀ {lb : Name} (_ : ∀ z, Sub c lb z → (z ∈ cfg ↔ z ∈ cfg0)) (z : Name),
        (z ∈ cfg ∧ z ∉ (isort c.leRevDepthName (c.descendants lb)).filter cfg0.contains ++
          (if cfg0.contains lb then [lb] else [])) ↔ (z ∈ cfg ∧ ¬ Sub c lb z) := by
      intro lb hag z
      rw [mem_exited c h cfg0 lb z]
      exact and_congr_right fun h1 => not_congr ⟨fun h2 => h2.2, fun hsub => ⟨(hag z hsub).mp h1, hsub⟩⟩
    cases hl : c.lca t.source tg with
    | some l =>
      simp only [hl] at hn hag ⊢
      obtain ⟨hls, hlt, _⟩ := lca_spec c h.tree _ _ l hl
      obtain ⟨xp, xs⟩ := lastBefore_sub c h.tree hls
      obtain ⟨yp, ys⟩ := lastBefore_sub c h.tree hlt
      have hkl : c.kindOf l = some .compound ∨
          (c.kindOf l = some .orthogonal ∧ lastBefore c t.source (some l) = lastBefore c tg (some l)) :=
        (h.composite _ l xp).imp_right fun e => ⟨e, h.noCross t ht tg l htg hl e⟩
      apply semi_transition c h hS xs xp ys yp htgs hs hkl _ hn
      intro z
      have hent := mem_enteredPath_sub c h.tree hlt z
      unfold enteredPath at hent
      rw [mem_applyMicro]
      simp only
      rw [hent, stay hag z]
    | none =>
      simp only [hl] at hn hag ⊢
      obtain ⟨r, hr, _, _⟩ := h.root
      have hlb := lastBefore_none c h r hr t.source hsrc
      rw [hlb] at hag
      apply semi_path c h htgs _ hn
      intro z
      have htw : ∀ l : List Name, l.takeWhile (fun x => some x != (none : Option Name)) = l := by
        intro l
        induction l with
        | nil => rfl
        | cons a as ih => exact congrArg (a :: ·) ih
      rw [mem_applyMicro, hlb]
      simp only
      rw [stay hag z, htw]
      simp only [List.mem_append, List.mem_reverse, List.mem_singleton, mem_ancestors c h.tree, Sub]
      constructor
      · rintro (⟨h1, h2⟩ | h1 | h1)
        · exact (h2 (sub_root c h hr (hS.state z h1))).elim
        · exact Or.inr h1
        · exact Or.inl h1.symm
      · rintro (e | e)
        · exact Or.inr (Or.inr e.symm)
        · exact Or.inr (Or.inl e)

theorem createStep_semi (c : Chart) (h : WFChart c) {cfg : List Name} (mem : List (Name × List Name))
    (hS : Semi c cfg) {t : Trans} (ht : t ∈ c.transitions) (hs : t.source ∈ cfg) (ev : Option Event) :
    Semi c (applyMicro c (cfg, mem) (createStep c cfg ev t)).1 :=
  createStep_semi_gen c h mem hS ht hs ev (fun _ _ _ _ => Iff.rfl)

end Sismic

namespace Sismic

/-! ### semi-legal and stable ⇒ legal -/

theorem stabilizationStep_none (c : Chart) {cfg : List Name} {mem : List (Name × List Name)}
    (hst : stabilizationStep c mem cfg = none) :
    (∀ leaf ∈ c.leafFor cfg, leafStep c mem leaf = none) ∧ ∀ n ∈ cfg, completeStep c cfg n = none := by
  unfold stabilizationStep at hst
  split at hst
  · cases hst
  · next hf =>
    exact ⟨fun l hl => List.findSome?_eq_none_iff.mp hf l ((mem_isort _ _ _).mpr hl),
      fun n hn => List.findSome?_eq_none_iff.mp hst n ((mem_isort _ _ _).mpr hn)⟩

theorem semi_stable_legal (c : Chart) (h : WFChart c) {cfg : List Name} {mem : List (Name × List Name)}
    (hS : Semi c cfg) (hst : stabilizationStep c mem cfg = none) : Legal c cfg := by
  obtain ⟨hleafs, hcompl⟩ := stabilizationStep_none c hst
  have isLeaf : ∀ z ∈ cfg, (∀ ch, c.parentFor ch = some z → ch ∉ cfg) → z ∈ c.leafFor cfg := by
    intro z hz hno
    simp only [Chart.leafFor, List.mem_filter, Bool.not_eq_true', List.any_eq_false, List.contains_iff_mem]
    refine ⟨hz, ?_⟩
    intro x hx hxc
    have hax := (mem_descendants c h z (hS.state z hz) x).mp hx
    obtain ⟨k, hk, hsub⟩ := Anc.child_of hax
    have hxc' : x ∈ cfg := by simpa using hxc
    exact hno k hk (hS.up_sub hsub hxc')
  refine ⟨hS.root, hS.state, hS.up, ?_, ?_, ?_, hS.nodup⟩
  · intro z hz sd hsd hk
    have hkz : c.kindOf z = some .compound := by rw [kindOf_of_stateFor c z sd hsd, hk]
    have hle : ((c.childrenFor z).filter cfg.contains).length ≤ 1 := by
      apply (length_le_one_iff ((h.childrenNodup z).filter _)).mpr
      intro a ha b hb
      simp only [List.mem_filter, List.contains_iff_mem] at ha hb
      exact hS.compound z hz hkz a b ((h.children z a).mp ha.1) ((h.children z b).mp hb.1) ha.2 hb.2
    refine ⟨hle, ?_⟩
    intro hi
    by_cases hex : ∃ ch, c.parentFor ch = some z ∧ ch ∈ cfg
    · obtain ⟨ch, hch, hcc⟩ := hex
      have : ch ∈ (c.childrenFor z).filter cfg.contains := by
        simp only [List.mem_filter, List.contains_iff_mem]
        exact ⟨(h.children z ch).mpr hch, hcc⟩
      have := List.length_pos_of_mem this
      omega
    · exfalso
      have := hleafs z (isLeaf z hz (fun ch hch hcc => hex ⟨ch, hch, hcc⟩))
      rw [leafStep_eq c mem hsd, hk] at this
      change (if _ then _ else _) = _ at this
      rw [if_pos hi] at this
      cases this
  · intro z hz hk ch hch
    have := hcompl z hz
    simp only [completeStep, hk, beq_self_eq_true, if_true] at this
    split at this
    · next he =>
      refine Decidable.byContradiction fun hnc => ?_
      have : ch ∈ isort leName ((c.childrenFor z).filter (fun x => !cfg.contains x)) :=
        (mem_isort _ _ _).mpr (List.mem_filter.mpr ⟨hch, by simpa using hnc⟩)
      rw [List.isEmpty_iff.mp he] at this
      cases this
    · cases this
  · intro s hs k hk
    cases hkk : k.isHistory with
    | false => rfl
    | true =>
      exfalso
      have := hleafs s (isLeaf s hs fun ch hch _ => no_children c h hk (Kind.not_composite_of_history hkk) ch hch)
      simp only [Chart.kindOf, Option.map_eq_some_iff] at hk
      obtain ⟨sd, hsd, hkd⟩ := hk
      rw [leafStep_eq c mem hsd, hkd] at this
      cases k with
      | shallow | deep => cases this
      | _ => cases hkk

end Sismic

namespace Sismic

/-! ### the invariant along a macro step -/

/-- configuration empty (not started, or final) or semi-legal; memory re-enterable -/
def SInv (c : Chart) (cm : List Name × List (Name × List Name)) : Prop :=
  (cm.1 = [] ∨ Semi c cm.1) ∧ MemOK c cm.2

theorem stabilization_nil (c : Chart) (mem : List (Name × List Name)) : stabilizationStep c mem [] = none := by
  simp [stabilizationStep, Chart.leafFor, isort]

theorem stabChain_induction {c : Chart} {P : List Name × List (Name × List Name) → Prop}
    (step : ∀ cm s, P cm → stabilizationStep c cm.2 cm.1 = some s → P (applyMicro c cm s)) :
    ∀ (stab : List Micro) (cm : List Name × List (Name × List Name)),
      P cm → StabChain c cm stab → P (applyMicros c cm stab)
  | [], _, hi, _ => hi
  | m :: ms, cm, hi, hc => by
    obtain ⟨s, hs, hshape, hrest⟩ := hc
    rw [applyMicros_cons_shape c cm hshape]
    exact stabChain_induction step ms _ (step cm s hi hs) hrest

theorem sInv_stab_step (c : Chart) (h : WFChart c) (cm : List Name × List (Name × List Name)) (s : Micro)
    (hi : SInv c cm) (hs : stabilizationStep c cm.2 cm.1 = some s) : SInv c (applyMicro c cm s) := by
  rcases hi.1 with he | hS
  · rw [he, stabilization_nil] at hs; cases hs
  · exact ⟨stabilizationStep_semi c h hS hi.2 hs, memOK_applyMicro c h cm s hS hi.2⟩

theorem stabChain_inv (c : Chart) (h : WFChart c) : ∀ (stab : List Micro) (cm : List Name × List (Name × List Name)),
    SInv c cm → StabChain c cm stab → SInv c (applyMicros c cm stab) :=
  stabChain_induction (sInv_stab_step c h)

theorem legal_semi (c : Chart) (h : WFChart c) {cfg : List Name} (hL : Legal c cfg) : Semi c cfg := by
  refine ⟨hL.root, hL.state, hL.up, ?_, hL.nodup⟩
  intro z hz hk a b ha hb haa hbb
  simp only [Chart.kindOf, Option.map_eq_some_iff] at hk
  obtain ⟨sd, hsd, hkd⟩ := hk
  have hle := (hL.compound z hz sd hsd hkd).1
  refine (length_le_one_iff ((h.childrenNodup z).filter _)).mp hle a ?_ b ?_ <;>
    simp only [List.mem_filter, List.contains_iff_mem]
  · exact ⟨(h.children z a).mpr ha, haa⟩
  · exact ⟨(h.children z b).mpr hb, hbb⟩

end Sismic

namespace Sismic

/-- what `_compute_steps` plans: nothing, the bare consumption of the event, or the steps of the
    selected transitions as `_sort_transitions` lets them through -/
theorem planOf_ok {σ : Type} (c : Chart) (E : Evaluator σ) (st : IState σ) (ms : List Micro)
    (hp : planOf c E st = .ok ms) :
    (ms = [] ∨ ∃ e, ms = [{ event := some e }]) ∨
    ∃ ts ev, ts ≠ [] ∧
      sortTransitions c (selectTransitions c st.config ((peekEvent st).map (·.name))
        (guardOk E st (peekEvent st))).selected = .ok ts ∧
      ms = createSteps c st.config ev ts := by
  unfold planOf at hp
  simp only at hp
  split at hp
  · left
    split at hp <;> cases hp
    · exact Or.inl rfl
    · exact Or.inr ⟨_, rfl⟩
  · next hne =>
    split at hp
    · cases hp
    · next ts hts =>
      cases hp
      refine Or.inr ⟨ts, _, fun e => hne ?_, hts, rfl⟩
      have hperm := sortTransitions_perm c _ ts hts
      rw [e] at hperm
      exact List.isEmpty_iff.mpr hperm.symm.eq_nil

end Sismic
