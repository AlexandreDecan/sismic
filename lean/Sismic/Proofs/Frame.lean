import Sismic.Spec.Run
import Sismic.Proofs.Hoare
import Sismic.Proofs.Queue
/-!
# Sismic.Proofs.Frame — properties that every part of a macro step has

`Walk env S`: a property `S` of interpreter computations that is closed under sequencing and holds
of the few operations a macro step is made of.  `walk_*`: it then holds of every part of
`execute_once`.  Relations between the state before and the state after, for every outcome
(`Respects*`: step time, listeners, queues, recorded times, deliveries, …), and the origin of
exceptions (`Raises`, Proofs/ErrSpec) are instances.
-/
namespace Sismic
open M

variable {σ ω : Type}

def RT (rs rs' : RS σ ω) : Prop :=
  rs'.st.time = rs.st.time ∧ rs'.st.listeners = rs.st.listeners ∧ ∃ l, rs'.eff = rs.eff ++ l

theorem RT_pre : PreOrd (RT : RS σ ω → RS σ ω → Prop) where
  refl a := ⟨rfl, rfl, [], by simp⟩
  trans a b c h1 h2 := by
    obtain ⟨t1, l1, e1, he1⟩ := h1
    obtain ⟨t2, l2, e2, he2⟩ := h2
    exact ⟨t2.trans t1, l2.trans l1, e1 ++ e2, by rw [he2, he1, List.append_assoc]⟩

theorem rt_modify (f : IState σ → IState σ) (h : ∀ st, (f st).time = st.time ∧ (f st).listeners = st.listeners) :
    Rel RT (M.modify f : M σ ω Unit) := by
  intro rs
  exact ⟨(h rs.st).1, (h rs.st).2, [], by simp [M.modify]⟩

theorem rt_emit (e : Effect) : Rel RT (M.emit e : M σ ω Unit) := by
  intro rs
  exact ⟨rfl, rfl, [e], rfl⟩

variable (env : Env σ ω)

/-! ### listeners: they reach the interpreter's external queue and the outside world, nothing else -/

def ExtQOnly (rs rs' : RS σ ω) : Prop := ∃ q, rs'.st = { rs.st with extQ := q }

theorem ExtQOnly_pre : PreOrd (ExtQOnly : RS σ ω → RS σ ω → Prop) where
  refl a := ⟨a.st.extQ, rfl⟩
  trans a b c := by rintro ⟨q1, h1⟩ ⟨q2, h2⟩; exact ⟨q2, by rw [h2, h1]⟩

theorem extq_callListener (m : Event) (l : Nat) : Rel ExtQOnly (callListener env m l) :=
  fun rs => ⟨_, by rw [callListener_eq]⟩

theorem extq_raiseMeta (m : Event) : Rel ExtQOnly (raiseMeta env m) :=
  Rel.bind ExtQOnly_pre (fun rs => ⟨rs.st.extQ, rfl⟩) fun _ =>
    Rel.bind ExtQOnly_pre (Rel.get ExtQOnly_pre) fun _ =>
      Rel.forEach ExtQOnly_pre (extq_callListener env m) _

theorem raiseMeta_eff (m : Event) (rs : RS σ ω) : (raiseMeta env m rs).2.eff = rs.eff ++ [.metaEv m] :=
  Rel.forEach (R := fun a b : RS σ ω => b.eff = a.eff) ⟨fun _ => rfl, fun _ _ _ h1 h2 => h2.trans h1⟩
    (fun _ _ => rfl) _ _

theorem raiseMeta_nil (m : Event) (rs : RS σ ω) (h : rs.st.listeners = []) :
    raiseMeta env m rs = (.ok (), { rs with eff := rs.eff ++ [.metaEv m] }) := by
  simp only [raiseMeta, M.bind, M.emit, M.get, h, M.forEach, M.pure]

theorem rt_raiseMeta (m : Event) : Rel RT (raiseMeta env m) := fun rs => by
  obtain ⟨q, h⟩ := extq_raiseMeta env m rs
  exact ⟨by rw [h], by rw [h], _, raiseMeta_eff env m rs⟩

/-! ### relations that the primitive steps respect -/

/-- effects logged by the interpreter itself outside contract evaluation and meta-events -/
def Effect.isPlain : Effect → Bool
  | .onExit _ | .onEntry _ | .action _ _ | .guard _ _ _ => true
  | _ => false

def FrameFn (f : IState σ → IState σ) : Prop := ∀ st, (f st).time = st.time ∧ (f st).listeners = st.listeners

/-- the last conjunct (the configuration only shrinks) is why `markEnter` is a field of its own in
    `RespectsS`; only `RTm.active` needs it -/
def QFrameFn (f : IState σ → IState σ) : Prop :=
  ∀ st, (f st).time = st.time ∧ (f st).listeners = st.listeners ∧ (f st).intQ = st.intQ ∧
    (f st).extQ = st.extQ ∧ (f st).sentEvents = st.sentEvents ∧
    (f st).entryTime = st.entryTime ∧ (f st).idleTime = st.idleTime ∧
    (∀ x, x ∈ (f st).config → x ∈ st.config)

/-- what a relation must satisfy on the primitive steps -/
structure Respects (R : RS σ ω → RS σ ω → Prop) : Prop where
  pre : PreOrd R
  modify : ∀ f : IState σ → IState σ, FrameFn f → Rel R (M.modify f : M σ ω Unit)
  emit : ∀ e : Effect, e.isPlain = true → Rel R (M.emit e : M σ ω Unit)
  raise : ∀ m : Event, Rel R (raiseMeta env m)
  contract : ∀ (kind : CondKind) (obj : Obj) (ev : Option Event), Rel R (evalContract env kind obj ev)

/-- one round of the loop `for event in sent_events: self._raise_event(event); self._sent_events.append(event)` -/
def sendOne (ev : Sent) : M σ ω Unit :=
  M.bind (raiseSent env ev) (fun _ =>
    M.modify (fun st => { st with sentEvents := st.sentEvents ++ [ev] }))

/-- `_select_event(consume=True)` followed by the `event consumed` meta-event -/
def consumeOne : M σ ω Unit :=
  M.bind (M.get : M σ ω (IState σ)) (fun st =>
    M.bind (M.modify (fun st' => (popEvent st').2)) (fun _ =>
      raiseMeta env { name := "event consumed", data := [("event", optEventVal (popEvent st).1)] }))

/-- the finer interface: sending one event is a primitive step of its own, and every other
    assignment (but the consumption of the selected event, see `RespectsQ`) provably leaves the
    queues and the list of sent events alone -/
structure RespectsS (R : RS σ ω → RS σ ω → Prop) : Prop where
  pre : PreOrd R
  modify : ∀ f : IState σ → IState σ, QFrameFn f → Rel R (M.modify f : M σ ω Unit)
  emit : ∀ e : Effect, e.isPlain = true → Rel R (M.emit e : M σ ω Unit)
  raise : ∀ m : Event, Rel R (raiseMeta env m)
  contract : ∀ (kind : CondKind) (obj : Obj) (ev : Option Event), Rel R (evalContract env kind obj ev)
  send : ∀ ev : Sent, Rel R (sendOne env ev)
  /-- the assignment that makes a state active and records its entry time -/
  markEnter : ∀ n : Name, Rel R (M.modify (fun st => { st with
      config := if st.config.contains n then st.config else st.config ++ [n],
      entryTime := assocSet n st.time st.entryTime,
      idleTime := assocSet n st.time st.idleTime }) : M σ ω Unit)
  /-- the assignment that records that a state fired a transition -/
  markFire : ∀ n : Name, Rel R (M.modify (fun st => { st with idleTime := assocSet n st.time st.idleTime }) : M σ ω Unit)

/-- … and so is consuming the selected event and announcing it -/
structure RespectsQ (R : RS σ ω → RS σ ω → Prop) : Prop extends RespectsS env R where
  consume : Rel R (consumeOne env)

/-! ### the walk through `execute_once` -/

/-- errors raised by the interpreter's own bookkeeping (not by contracts, listeners or the
    non-determinism / conflict checks) -/
def Err.plain : Err → Bool
  | .codeError | .statechartError | .assertion | .fuel | .unsupported => true
  | _ => false

/-- a property of computations that sequencing preserves -/
structure Logic (S : (α : Type) → M σ ω α → Prop) : Prop where
  pure : ∀ {α} (a : α), S α (M.pure a)
  bind : ∀ {α β} {x : M σ ω α} {f : α → M σ ω β}, S α x → (∀ a, S β (f a)) → S β (M.bind x f)
  get : S _ M.get
  throw : ∀ {α} (e : Err), e.plain = true → S α (M.throw e)

theorem Logic.forEach {S : (α : Type) → M σ ω α → Prop} (L : Logic S) {γ : Type} {f : γ → M σ ω Unit}
    (hf : ∀ a, S _ (f a)) : ∀ l : List γ, S _ (M.forEach f l)
  | [] => L.pure ()
  | x :: xs => L.bind (hf x) fun _ => L.forEach hf xs

theorem Logic.sendOne {S : (α : Type) → M σ ω α → Prop} (L : Logic S) (hraise : ∀ m : Event, S _ (raiseMeta env m))
    (hq : ∀ e : Event, S _ (queueEvent (σ := σ) (ω := ω) true e))
    (happ : ∀ ev : Sent, S _ (M.modify (fun st => { st with sentEvents := st.sentEvents ++ [ev] })))
    (ev : Sent) : S _ (sendOne env ev) := by
  refine L.bind ?_ fun _ => happ ev
  cases ev with
  | notify m => exact hraise m
  | «internal» e =>
    unfold raiseSent
    refine L.bind (hq e) fun _ => L.bind (hraise _) fun _ => ?_
    split
    · exact hraise _
    · exact L.pure _

theorem Logic.consumeOne {S : (α : Type) → M σ ω α → Prop} (L : Logic S) (hraise : ∀ m : Event, S _ (raiseMeta env m))
    (hpop : S _ (M.modify (fun st => (popEvent st).2))) : S _ (consumeOne env) :=
  L.bind L.get fun _ => L.bind hpop fun _ => hraise _

theorem Logic.ofPre {R : RS σ ω → RS σ ω → Prop} (h : PreOrd R) : Logic (fun _ m => Rel R m) where
  pure := Rel.pure h
  bind := Rel.bind h
  get := Rel.get h
  throw e _ := Rel.throw h e

theorem Logic.evalConds {S : (α : Type) → M σ ω α → Prop} (L : Logic S) (hthrow : ∀ e : Err, S Unit (M.throw e))
    (hemit : ∀ (k : CondKind) (o : ObjId) (i : Nat) (e : Option Event) (r : Option Bool), S _ (M.emit (.cond k o i e r)))
    (kind : CondKind) (obj : Obj) (ev : Option Event) :
    ∀ (codes : List Code) (i : Nat), S _ (evalConds env kind obj ev i codes)
  | [], _ => L.pure _
  | c :: cs, i => by
    unfold Sismic.evalConds
    refine L.bind L.get fun _ => L.bind (hemit _ _ _ _ _) fun _ => ?_
    split
    · exact hthrow _
    · exact hthrow _
    · exact L.evalConds hthrow hemit kind obj ev cs (i + 1)

/-- evaluating contract conditions: the context is frozen first, before preconditions only -/
theorem Logic.evalContract {S : (α : Type) → M σ ω α → Prop} (L : Logic S) (hthrow : ∀ e : Err, S Unit (M.throw e))
    (hemit : ∀ (k : CondKind) (o : ObjId) (i : Nat) (e : Option Event) (r : Option Bool), S _ (M.emit (.cond k o i e r)))
    (kind : CondKind) (obj : Obj) (ev : Option Event)
    (hfreeze : kind = .pre → S _ (M.modify (fun st => { st with ctx := env.E.freeze st.ctx obj }))) :
    S _ (evalContract env kind obj ev) := by
  unfold Sismic.evalContract
  split
  · exact L.pure _
  · refine L.bind ?_ fun _ => L.evalConds env hthrow hemit kind obj ev _ _
    split
    · next hc => exact hfreeze (beq_iff_eq.mp (Bool.and_eq_true _ _ ▸ hc).1)
    · exact L.pure _

theorem contract_of_prims {R : RS σ ω → RS σ ω → Prop} (hpre : PreOrd R)
    (hfreeze : ∀ obj : Obj, Rel R (M.modify (fun st => { st with ctx := env.E.freeze st.ctx obj }) : M σ ω Unit))
    (hemit : ∀ (k : CondKind) (o : ObjId) (i : Nat) (e : Option Event) (r : Option Bool),
      Rel R (M.emit (.cond k o i e r) : M σ ω Unit))
    (kind : CondKind) (obj : Obj) (ev : Option Event) : Rel R (evalContract env kind obj ev) :=
  (Logic.ofPre hpre).evalContract env (Rel.throw hpre) hemit kind obj ev fun _ => hfreeze obj

/-- what `S` must hold of for the walk: the operations below `enterState`, `fireTransition` and
    `runCode` are not looked into, an assignment may be assumed not to touch the evaluator's state,
    and no precondition is evaluated elsewhere -/
structure Walk (S : (α : Type) → M σ ω α → Prop) : Prop extends Logic S where
  modify : ∀ f : IState σ → IState σ, QFrameFn f → (∀ st, (f st).ctx = st.ctx) → S _ (M.modify f)
  emit : ∀ e : Effect, e.isPlain = true → S _ (M.emit e)
  raise : ∀ m : Event, S _ (raiseMeta env m)
  contract : ∀ (kind : CondKind) (obj : Obj) (ev : Option Event), kind ≠ .pre → S _ (evalContract env kind obj ev)
  send : ∀ ev : Sent, S _ (sendOne env ev)
  runCode : ∀ (k : ExecKind) (ev : Option Event), S _ (runCode env k ev)
  enter : ∀ (step : Micro) (s : StateDef), S _ (enterState env step s)
  fire : ∀ (step : Micro) (t : Trans), S _ (fireTransition env step t)

/-- the same at the level of `RespectsS`: single assignments and contract evaluations -/
structure Prims (S : (α : Type) → M σ ω α → Prop) : Prop extends Logic S where
  modify : ∀ f : IState σ → IState σ, QFrameFn f → S _ (M.modify f)
  emit : ∀ e : Effect, e.isPlain = true → S _ (M.emit e)
  raise : ∀ m : Event, S _ (raiseMeta env m)
  contract : ∀ (kind : CondKind) (obj : Obj) (ev : Option Event), S _ (evalContract env kind obj ev)
  send : ∀ ev : Sent, S _ (sendOne env ev)
  markEnter : ∀ n : Name, S _ (M.modify (fun st => { st with
      config := if st.config.contains n then st.config else st.config ++ [n],
      entryTime := assocSet n st.time st.entryTime,
      idleTime := assocSet n st.time st.idleTime }))
  markFire : ∀ n : Name, S _ (M.modify (fun st => { st with idleTime := assocSet n st.time st.idleTime }))

variable {env}

/-- `memoryOf` fails with the `assert` of the history bookkeeping, or on an unknown state -/
theorem memoryOf_error {c : Chart} {cfg0 : List Name} {s : StateDef} {ch : Name} {e : Err}
    (h : memoryOf c cfg0 s ch = .error e) : e = .assertion ∨ e = .statechartError ∧ c.kindOf ch = none := by
  unfold memoryOf at h
  split at h
  · split at h <;> cases h; exact .inl rfl
  · split at h <;> cases h; exact .inl rfl
  · cases h
  · next hk => cases h; exact .inr ⟨rfl, hk⟩

theorem Prims.runCode {S : (α : Type) → M σ ω α → Prop} (P : Prims env S) (k : ExecKind) (ev : Option Event) :
    S _ (runCode env k ev) := by
  unfold Sismic.runCode
  refine P.bind P.get fun st => P.bind (P.modify _ fun _ => ⟨rfl, rfl, rfl, rfl, rfl, rfl, rfl, fun _ h => h⟩) fun _ => ?_
  split
  · exact P.pure _
  · exact P.throw _ rfl

theorem Prims.toWalk {S : (α : Type) → M σ ω α → Prop} (P : Prims env S) : Walk env S where
  toLogic := P.toLogic
  modify f hf _ := P.modify f hf
  emit := P.emit
  raise := P.raise
  contract kind obj ev _ := P.contract kind obj ev
  send := P.send
  runCode := P.runCode
  enter step s := by
    unfold enterState
    exact P.bind (P.contract _ _ _) fun _ => P.bind (P.emit _ rfl) fun _ => P.bind (P.runCode _ _) fun _ =>
      P.bind (P.markEnter _) fun _ => P.bind (P.raise _) fun _ => P.pure _
  fire step t := by
    unfold fireTransition
    exact P.bind (P.contract _ _ _) fun _ => P.bind (P.contract _ _ _) fun _ => P.bind (P.emit _ rfl) fun _ =>
      P.bind (P.runCode _ _) fun _ => P.bind (P.contract _ _ _) fun _ => P.bind (P.contract _ _ _) fun _ =>
      P.bind (P.markFire _) fun _ => P.bind (P.raise _) fun _ => P.pure _

theorem RespectsS.toPrims {R : RS σ ω → RS σ ω → Prop} (H : RespectsS env R) : Prims env (fun _ m => Rel R m) where
  toLogic := Logic.ofPre H.pre
  modify := H.modify
  emit := H.emit
  raise := H.raise
  contract := H.contract
  send := H.send
  markEnter := H.markEnter
  markFire := H.markFire

/-- everything `execute_once` does after its first assignment -/
def stepTail (env : Env σ ω) (clock : Int) : M σ ω (Option MacroStep) :=
  M.bind (raiseMeta env { name := "step started", data := [("time", .int clock)] }) (fun _ =>
    M.bind (computeSteps env) (fun computed =>
    M.bind (runSteps env computed) (fun ms => finishStep env ms)))

theorem executeOnce_eq (env : Env σ ω) (clock : Int) (rs : RS σ ω) :
    executeOnce env clock rs = stepTail env clock { rs with st := { rs.st with time := clock, sentEvents := [] } } := rfl

/-- `_compute_steps` raises what the plan fails with -/
def raisePlan : Except PlanErr (List Micro) → M σ ω (List Micro)
  | .ok l => M.pure l
  | .error .nonDeterminism => M.throw .nonDeterminism
  | .error .conflicting => M.throw .conflicting

/-- `_compute_steps`: the first call plans the entry of the root; later calls log the guard
    evaluations of the selection and return (or raise) what `planOf` says -/
theorem computeSteps_def (env : Env σ ω) : computeSteps env = M.bind M.get fun st =>
    if !st.initialized then
      M.bind (M.modify fun st => { st with initialized := true }) fun _ => M.pure [{ entered := env.chart.root.toList }]
    else M.bind (logGuards env st (peekEvent st) (selCalls env.chart env.E st)) fun _ =>
      raisePlan (planOf env.chart env.E st) := by
  unfold computeSteps
  refine congrArg (M.bind M.get) (funext fun st => ?_)
  cases st.initialized
  · rfl
  · refine congrArg (M.bind _) (funext fun _ => ?_)
    unfold planOf
    dsimp only
    rw [apply_ite raisePlan]
    refine ite_congr rfl (fun _ => ?_) (fun _ => ?_)
    · cases peekEvent st <;> rfl
    · generalize sortTransitions _ _ = r
      rcases r with (_ | _) | ts <;> rfl

theorem computeSteps_eq (env : Env σ ω) (rs : RS σ ω) (hi : rs.st.initialized = true) :
    computeSteps env rs = M.bind (logGuards env rs.st (peekEvent rs.st) (selCalls env.chart env.E rs.st))
      (fun _ => raisePlan (planOf env.chart env.E rs.st)) rs := by
  rw [computeSteps_def]
  show (if (!rs.st.initialized) = true then _ else _ : M σ ω (List Micro)) rs = _
  rw [hi]
  rfl

section Walk
variable {S : (α : Type) → M σ ω α → Prop} (W : Walk env S)
include W

theorem walk_stateObj (n : Name) : S _ (stateObj env n) := by
  unfold stateObj
  split
  · exact W.pure _
  · exact W.throw _ rfl

theorem walk_stateObjs : ∀ ns : List Name, S _ (stateObjs env ns)
  | [] => W.pure _
  | n :: ns => W.bind (walk_stateObj W n) fun _ => W.bind (walk_stateObjs ns) fun _ => W.pure _

theorem walk_saveMemory (cfg0 : List Name) (s : StateDef) : ∀ chs : List Name, S _ (saveMemory env cfg0 s chs)
  | [] => W.pure _
  | ch :: rest => by
    unfold saveMemory
    split
    · next e he => exact W.throw _ (by rcases memoryOf_error he with rfl | ⟨rfl, _⟩ <;> rfl)
    · exact walk_saveMemory cfg0 s rest
    · exact W.bind (W.modify _ (fun _ => ⟨rfl, rfl, rfl, rfl, rfl, rfl, rfl, fun _ h => h⟩) fun _ => rfl)
        fun _ => walk_saveMemory cfg0 s rest

theorem walk_exitState (cfg0 : List Name) (step : Micro) (s : StateDef) : S _ (exitState env cfg0 step s) := by
  unfold exitState
  refine W.bind (W.emit _ rfl) fun _ => W.bind (W.runCode _ _) fun _ => W.bind ?_ fun _ =>
    W.bind W.get fun st => W.bind ?_ fun _ =>
    W.bind (W.modify _ (fun _ => ⟨rfl, rfl, rfl, rfl, rfl, rfl, rfl, fun _ h => (List.mem_filter.mp h).1⟩) fun _ => rfl)
      fun _ => W.bind (W.contract _ _ _ (by decide)) fun _ => W.bind (W.raise _) fun _ => W.pure _
  · split
    · exact walk_saveMemory W cfg0 s _
    · exact W.pure _
  · split
    · exact W.throw _ rfl
    · exact W.pure _

theorem walk_collect {γ : Type} (f : γ → M σ ω (List Sent)) (hf : ∀ x, S _ (f x)) : ∀ l : List γ, S _ (collect f l)
  | [] => W.pure _
  | x :: xs => W.bind (hf x) fun _ => W.bind (walk_collect f hf xs) fun _ => W.pure _

theorem walk_applyStep (step : Micro) : S _ (applyStep env step) := by
  unfold applyStep
  refine W.bind (walk_stateObjs W _) fun _ => W.bind (walk_stateObjs W _) fun _ => W.bind W.get fun _ =>
    W.bind (walk_collect W _ (walk_exitState W _ _) _) fun _ => W.bind ?_ fun _ =>
    W.bind (walk_collect W _ (W.enter _) _) fun _ => W.bind (W.toLogic.forEach W.send _) fun _ => W.pure _
  split
  · exact W.fire _ _
  · exact W.pure _

theorem walk_stabilize : ∀ n : Nat, S _ (stabilize env n)
  | 0 => W.throw _ rfl
  | n+1 => by
    unfold stabilize
    refine W.bind W.get fun _ => ?_
    split
    · exact W.pure _
    · exact W.bind (walk_applyStep W _) fun _ => W.bind (walk_stabilize n) fun _ => W.pure _

theorem walk_applyAll : ∀ l : List Micro, S _ (applyAll env l)
  | [] => W.pure _
  | s :: rest => W.bind (walk_applyStep W s) fun _ => W.bind (walk_stabilize W _) fun _ =>
      W.bind (walk_applyAll rest) fun _ => W.pure _

theorem walk_logGuards (st : IState σ) (ev : Option Event) : ∀ l : List (Trans × Bool), S _ (logGuards env st ev l)
  | [] => W.pure _
  | (t, exposed) :: rest => by
    unfold logGuards
    refine W.bind (W.emit _ rfl) fun _ => ?_
    split
    · exact W.throw _ rfl
    · exact walk_logGuards st ev rest

/-- `hnd`, `hcf`: the two exceptions of `_sort_transitions` -/
theorem walk_computeSteps (hnd : S (List Micro) (M.throw .nonDeterminism)) (hcf : S (List Micro) (M.throw .conflicting)) :
    S _ (computeSteps env) := by
  rw [computeSteps_def]
  refine W.bind W.get fun st => ?_
  by_cases hi : (!st.initialized) = true
  · rw [if_pos hi]
    exact W.bind (W.modify _ (fun _ => ⟨rfl, rfl, rfl, rfl, rfl, rfl, rfl, fun _ h => h⟩) fun _ => rfl) fun _ => W.pure _
  · rw [if_neg hi]
    refine W.bind (walk_logGuards W _ _ _) fun _ => ?_
    cases planOf env.chart env.E st with
    | ok l => exact W.pure l
    | error e => cases e <;> assumption

theorem walk_finishStep (ms : Option MacroStep) : S _ (finishStep env ms) := by
  unfold finishStep
  exact W.bind W.get fun _ =>
    W.bind (W.toLogic.forEach (fun n => W.bind (walk_stateObj W n) fun _ => W.contract _ _ _ (by decide)) _) fun _ =>
    W.bind (W.raise _) fun _ => W.pure _

theorem walk_runSteps (hc : S _ (consumeOne env)) (computed : List Micro) : S _ (runSteps env computed) := by
  unfold runSteps
  split
  · exact W.pure _
  · refine W.bind ?_ fun _ => W.bind (walk_applyAll W _) fun _ => W.bind W.get fun _ => W.pure _
    split
    · exact hc
    · exact W.pure _

theorem walk_tail (hnd : S (List Micro) (M.throw .nonDeterminism)) (hcf : S (List Micro) (M.throw .conflicting))
    (hc : S _ (consumeOne env)) (clock : Int) : S _ (stepTail env clock) :=
  W.bind (W.raise _) fun _ => W.bind (walk_computeSteps W hnd hcf) fun computed =>
    W.bind (walk_runSteps W hc computed) fun ms => walk_finishStep W ms

theorem walk_executeOnce (hnd : S (List Micro) (M.throw .nonDeterminism)) (hcf : S (List Micro) (M.throw .conflicting))
    (hc : S _ (consumeOne env))
    (clock : Int) (hreset : S _ (M.modify (fun st => { st with time := clock, sentEvents := [] }))) :
    S _ (executeOnce env clock) :=
  W.bind hreset fun _ => walk_tail W hnd hcf hc clock

end Walk

variable (env)

theorem queueEvent_frame (i : Bool) (e : Event) :
    FrameFn (fun (st : IState σ) =>
      let due := st.time + e.delay
      if i then { st with intQ := queueInsert due e st.intQ }
      else { st with extQ := queueInsert due e st.extQ }) := by
  intro st
  cases i <;> exact ⟨rfl, rfl⟩

/-- a relation indifferent to the queues respects the finer interface too -/
theorem Respects.toQ {R : RS σ ω → RS σ ω → Prop} (H : Respects env R) : RespectsQ env R where
  pre := H.pre
  modify f hf := H.modify f (fun st => ⟨(hf st).1, (hf st).2.1⟩)
  emit := H.emit
  raise := H.raise
  contract := H.contract
  send := (Logic.ofPre H.pre).sendOne env H.raise
    (fun e => by unfold queueEvent; exact H.modify _ (queueEvent_frame true e))
    fun _ => H.modify _ fun _ => ⟨rfl, rfl⟩
  markEnter n := H.modify _ fun _ => ⟨rfl, rfl⟩
  markFire n := H.modify _ fun _ => ⟨rfl, rfl⟩
  consume := (Logic.ofPre H.pre).consumeOne env H.raise
    (H.modify _ fun st => by rw [popEvent_queues]; exact ⟨rfl, rfl⟩)

variable {env}

section GenericQ
variable {R : RS σ ω → RS σ ω → Prop} (H : RespectsQ env R)
include H

theorem rel_executeOnce_tail (clock : Int) :
    Rel R (M.bind (raiseMeta env { name := "step started", data := [("time", .int clock)] }) (fun _ =>
      M.bind (computeSteps env) (fun computed =>
      M.bind (runSteps env computed) (fun ms => finishStep env ms)))) :=
  walk_tail H.toRespectsS.toPrims.toWalk (Rel.throw H.pre _) (Rel.throw H.pre _) H.consume clock

/-- `execute_once` relates the state in which the step time is set and the list of sent events
    emptied to the state in which it is left -/
theorem rel_executeOnce (clock : Int) (rs : RS σ ω) :
    R { rs with st := { rs.st with time := clock, sentEvents := [] } } (executeOnce env clock rs).2 :=
  rel_executeOnce_tail H clock _

end GenericQ

variable (env)

/-! ### instance: step time, listeners, log growth -/

theorem RT_respects : Respects env (RT : RS σ ω → RS σ ω → Prop) where
  pre := RT_pre
  modify f hf := rt_modify f hf
  emit e _ := rt_emit e
  raise m := rt_raiseMeta env m
  contract := contract_of_prims env RT_pre (fun _ => rt_modify _ fun _ => ⟨rfl, rfl⟩) (fun _ _ _ _ _ => rt_emit _)

theorem rt_walk : Walk env (fun _ m => Rel (RT : RS σ ω → RS σ ω → Prop) m) :=
  (RT_respects env).toQ.toRespectsS.toPrims.toWalk

theorem rt_computeSteps : Rel RT (computeSteps env) :=
  walk_computeSteps (rt_walk env) (Rel.throw RT_pre _) (Rel.throw RT_pre _)
theorem rt_runSteps (computed : List Micro) : Rel RT (runSteps env computed) :=
  walk_runSteps (rt_walk env) (RT_respects env).toQ.consume computed
theorem rt_finishStep (ms : Option MacroStep) : Rel RT (finishStep env ms) := walk_finishStep (rt_walk env) ms
theorem rt_applyStep (step : Micro) : Rel RT (applyStep env step) := walk_applyStep (rt_walk env) step

/-- **The step time is the clock value sampled at the call, whatever happens** (normal return or
    exception), and the effect log is only extended. -/
theorem executeOnce_time (clock : Int) (rs : RS σ ω) :
    (executeOnce env clock rs).2.st.time = clock ∧
    (executeOnce env clock rs).2.st.listeners = rs.st.listeners ∧
    ∃ l, (executeOnce env clock rs).2.eff = rs.eff ++ l :=
  rel_executeOnce (RT_respects env).toQ clock rs

end Sismic
