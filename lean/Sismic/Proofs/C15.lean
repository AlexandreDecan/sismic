import Sismic.Proofs.LogFilters
/-!
# Sismic.Proofs.C15 — every raised meta-event reaches every listener once, in order
-/
namespace Sismic
open M

variable {σ : Type}

/-- listeners that only record what they are given (listener id, meta-event), in call order -/
def recDeliver : Nat → Event → Int → List (Nat × Event) → Except Err Unit × List (Nat × Event) × List Event :=
  fun l m _ w => (.ok (), w ++ [(l, m)], [])

def deliveries (listeners : List Nat) (l : List Effect) : List (Nat × Event) :=
  (metaOfEffects l).flatMap (fun m => listeners.map (fun k => (k, m)))

/-- listeners unchanged; the world grew by the deliveries of the meta-events logged -/
def RW (rs rs' : RS σ (List (Nat × Event))) : Prop :=
  rs'.st.listeners = rs.st.listeners ∧
  ∃ l, rs'.eff = rs.eff ++ l ∧ rs'.world = rs.world ++ deliveries rs.st.listeners l

theorem deliveries_append (ls : List Nat) (a b : List Effect) :
    deliveries ls (a ++ b) = deliveries ls a ++ deliveries ls b := by
  simp [deliveries, metaOf_append, List.flatMap_append]

theorem RW_pre : PreOrd (RW : RS σ (List (Nat × Event)) → RS σ (List (Nat × Event)) → Prop) where
  refl a := ⟨rfl, [], by simp, by simp [deliveries]⟩
  trans a b c h1 h2 := by
    obtain ⟨l1, e1, he1, hw1⟩ := h1
    obtain ⟨l2, e2, he2, hw2⟩ := h2
    refine ⟨l2.trans l1, e1 ++ e2, by rw [he2, he1, List.append_assoc], ?_⟩
    rw [hw2, hw1, l1, deliveries_append, List.append_assoc]

variable (env : Env σ (List (Nat × Event)))

theorem forEach_rec (hd : env.deliver = recDeliver) (m : Event) : ∀ (ls : List Nat) (rs : RS σ (List (Nat × Event))),
    (M.forEach (callListener env m) ls rs).2.world = rs.world ++ ls.map (fun k => (k, m)) ∧
    (M.forEach (callListener env m) ls rs).2.st = rs.st ∧
    (M.forEach (callListener env m) ls rs).2.eff = rs.eff
  | [], rs => by simp [M.forEach, M.pure]
  | l :: ls, rs => by
    have hc : callListener env m l rs = (.ok (), { rs with world := rs.world ++ [(l, m)] }) := by
      rw [callListener_eq, hd]
      rfl
    simp only [M.forEach, M.bind, hc]
    have ih := forEach_rec hd m ls { rs with world := rs.world ++ [(l, m)] }
    refine ⟨?_, ih.2.1, ih.2.2⟩
    rw [ih.1]
    simp

theorem rw_respects (hd : env.deliver = recDeliver) : Respects env (RW : RS σ _ → RS σ _ → Prop) where
  pre := RW_pre
  modify f hf := fun rs => ⟨(hf rs.st).2, [], by simp [M.modify], by simp [M.modify, deliveries]⟩
  emit e he := fun rs => ⟨rfl, [e], rfl, by
    cases e <;> simp [Effect.isPlain] at he <;> simp [M.emit, deliveries]⟩
  raise m := by
    intro rs
    unfold raiseMeta
    simp only [M.bind, M.emit, M.get]
    have h := forEach_rec env hd m rs.st.listeners { rs with eff := rs.eff ++ [.metaEv m] }
    refine ⟨by rw [h.2.1], [.metaEv m], h.2.2, ?_⟩
    rw [h.1]
    simp [deliveries]
  contract := contract_of_prims env RW_pre
    (fun _ rs => ⟨rfl, [], by simp [M.modify], by simp [M.modify, deliveries]⟩)
    (fun k o i e r rs => ⟨rfl, [.cond k o i e r], rfl, by simp [M.emit, deliveries]⟩)

/-- **Each listener, each meta-event, once, in order** — for every outcome of the call: with
    recording listeners, what was delivered during `execute_once` is, for each meta-event logged
    (in order), one delivery to each attached listener (in attachment order). -/
theorem deliveries_recorded (hd : env.deliver = recDeliver) (clock : Int) (rs : RS σ (List (Nat × Event))) :
    ∃ l, (executeOnce env clock rs).2.eff = rs.eff ++ l ∧
      (executeOnce env clock rs).2.world = rs.world ++ deliveries rs.st.listeners l :=
  (rel_executeOnce (rw_respects env hd).toQ clock rs).2

end Sismic
