import Sismic.Model.Clock
import Mathlib.Algebra.Order.Ring.Defs
/-!
# Sismic.Proofs.Clock — laws of `SimulatedClock` over any linearly ordered commutative ring
-/
namespace Sismic
namespace SimClock

variable {α : Type} [CommRing α] [LinearOrder α] [IsStrictOrderedRing α]

def Inv (c : SimClock α) (r : α) : Prop := c.base ≤ r ∧ 0 ≤ c.speed

theorem now_mono (c : SimClock α) {r r' : α} (h : 0 ≤ c.speed) (hr : r ≤ r') : c.now r ≤ c.now r' := by
  unfold now elapsed
  split
  · exact add_le_add_right (mul_le_mul_of_nonneg_right (sub_le_sub_right hr _) h) _
  · exact le_refl _

theorem now_stopped (c : SimClock α) (h : c.play = false) (r r' : α) : c.now r = c.now r' := by
  simp only [now, elapsed, h, Bool.false_eq_true, if_false]

theorem now_rate (c : SimClock α) (h : c.play = true) (r r' : α) :
    c.now r' - c.now r = c.speed * (r' - r) := by
  simp only [now, elapsed, h, if_true]
  rw [add_sub_add_left_eq_sub, ← sub_mul, sub_sub_sub_cancel_right, mul_comm]

theorem now_base (c : SimClock α) : c.now c.base = c.time := by
  unfold now elapsed
  split
  · rw [sub_self, zero_mul, add_zero]
  · exact add_zero _

theorem now_rebased (c : SimClock α) (t b : α) :
    ({ c with time := t, base := b } : SimClock α).now b = t :=
  now_base { c with time := t, base := b }

/-! every operation is continuous: at its (last) reading the new clock shows what the old one showed -/

theorem start_now (c : SimClock α) (r : α) : (c.start r).now r = c.now r := by
  unfold start
  cases hp : c.play
  · exact (now_base { c with base := r, play := true }).trans (by simp only [now, elapsed, hp, Bool.false_eq_true, if_false, add_zero])
  · rfl

theorem stop_now (c : SimClock α) (r r' : α) : (c.stop r).now r' = c.now r := by
  unfold stop
  cases hp : c.play
  · exact now_stopped c hp r' r
  · simp only [if_true, now, elapsed, Bool.false_eq_true, if_false, add_zero, hp]

theorem setSpeed_now (c : SimClock α) (r₁ r₂ s : α) : (c.setSpeed r₁ r₂ s).now r₂ = c.now r₁ :=
  now_base (c.setSpeed r₁ r₂ s)

def readings : ClockOp α → List α
  | .start r => [r]
  | .stop r => [r]
  | .setSpeed r₁ r₂ _ => [r₁, r₂]
  | .setTime r₁ r₂ _ => [r₁, r₂]
  | .read r => [r]

def speedOK : ClockOp α → Prop
  | .setSpeed _ _ s => 0 ≤ s
  | _ => True

/-- the readings of `op` are non-decreasing, start at or after `r` and end at `r'` -/
def Chrono (r : α) (op : ClockOp α) (r' : α) : Prop :=
  match op with
  | .start a => r ≤ a ∧ r' = a
  | .stop a => r ≤ a ∧ r' = a
  | .setSpeed a b _ => r ≤ a ∧ a ≤ b ∧ r' = b
  | .setTime a b _ => r ≤ a ∧ a ≤ b ∧ r' = b
  | .read a => r ≤ a ∧ r' = a

theorem step_mono (c : SimClock α) (op : ClockOp α) (r r' : α) (hI : Inv c r) (hs : speedOK op)
    (hc : Chrono r op r') :
    Inv (c.step op).1 r' ∧ c.now r ≤ (c.step op).1.now r' := by
  obtain ⟨hb, hsp⟩ := hI
  cases op with
  | start a =>
    obtain ⟨h1, rfl⟩ := hc
    refine ⟨?_, (now_mono c hsp h1).trans (le_of_eq (start_now c r').symm)⟩
    show Inv (c.start r') r'
    unfold start
    cases c.play
    · exact ⟨le_refl _, hsp⟩
    · exact ⟨le_trans hb h1, hsp⟩
  | stop a =>
    obtain ⟨h1, rfl⟩ := hc
    refine ⟨?_, (now_mono c hsp h1).trans (le_of_eq (stop_now c r' r').symm)⟩
    show Inv (c.stop r') r'
    unfold stop
    cases c.play <;> exact ⟨le_trans hb h1, hsp⟩
  | setSpeed a b s =>
    obtain ⟨h1, h2, rfl⟩ := hc
    exact ⟨⟨le_refl _, hs⟩, (now_mono c hsp h1).trans (le_of_eq (setSpeed_now c a r' s).symm)⟩
  | setTime a b t =>
    obtain ⟨h1, h2, rfl⟩ := hc
    unfold step setTime
    by_cases ht : t < c.now a
    · simp only [ht, if_true]
      exact ⟨⟨le_trans hb (le_trans h1 h2), hsp⟩, now_mono c hsp (le_trans h1 h2)⟩
    · simp only [ht, if_false]
      refine ⟨⟨le_refl _, hsp⟩, ?_⟩
      rw [now_rebased]
      exact le_trans (now_mono c hsp h1) (not_lt.mp ht)
  | read a =>
    obtain ⟨h1, rfl⟩ := hc
    exact ⟨⟨le_trans hb h1, hsp⟩, now_mono c hsp h1⟩

def ChronoList : α → List (ClockOp α) → Prop
  | _, [] => True
  | r, op :: ops => ∃ r', Chrono r op r' ∧ speedOK op ∧ ChronoList r' ops

def values : List (ClockOut α) → List α
  | [] => []
  | .value v :: os => v :: values os
  | _ :: os => values os

theorem step_value (c : SimClock α) (op : ClockOp α) (r r' : α) (hc : Chrono r op r')
    (v : α) (hv : (c.step op).2 = .value v) : v = (c.step op).1.now r' := by
  cases op with
  | read a =>
    obtain ⟨h1, rfl⟩ := hc
    simp only [step, ClockOut.value.injEq] at hv
    exact hv.symm
  | start a => simp [step] at hv
  | stop a => simp [step] at hv
  | setSpeed a b s => simp [step] at hv
  | setTime a b t =>
    simp only [step] at hv
    split at hv <;> simp at hv

theorem run_mono : ∀ (ops : List (ClockOp α)) (c : SimClock α) (r lo : α), Inv c r → lo ≤ c.now r →
    ChronoList r ops →
    (∀ v ∈ values (c.run ops).2, lo ≤ v) ∧ (values (c.run ops).2).Pairwise (· ≤ ·) := by
  intro ops
  induction ops with
  | nil => intro c r lo _ _ _; simp [run, values]
  | cons op ops ih =>
    intro c r lo hI hlo hch
    obtain ⟨r', hc, hs, hrest⟩ := hch
    obtain ⟨hI', hm⟩ := step_mono c op r r' hI hs hc
    have ih' := ih (c.step op).1 r' (c.now r) hI' hm hrest
    simp only [run]
    cases ho : (c.step op).2 with
    | value v =>
      have h2 := step_value c op r r' hc v ho
      have h1 := hm.trans (le_of_eq h2.symm)
      have ih2 := ih (c.step op).1 r' v hI' (le_of_eq h2) hrest
      simp only [values, List.mem_cons, List.pairwise_cons]
      refine ⟨?_, ih2.1, ih2.2⟩
      rintro w (rfl | hw)
      · exact le_trans hlo h1
      · exact le_trans (le_trans hlo h1) (ih2.1 w hw)
    | none =>
      simp only [values]
      exact ⟨fun v hv => le_trans hlo (ih'.1 v hv), ih'.2⟩
    | accepted b =>
      simp only [values]
      exact ⟨fun v hv => le_trans hlo (ih'.1 v hv), ih'.2⟩

theorem setTime_exact (c : SimClock α) (r₁ r₂ t : α) (c' : SimClock α)
    (h : c.setTime r₁ r₂ t = some c') : c'.now r₂ = t := by
  unfold setTime at h
  split at h
  · cases h
  · cases h
    exact now_rebased c t r₂

theorem setTime_reject (c : SimClock α) (r₁ r₂ t : α) :
    c.setTime r₁ r₂ t = none ↔ t < c.now r₁ := by
  unfold setTime
  split <;> simp_all

end SimClock
end Sismic
