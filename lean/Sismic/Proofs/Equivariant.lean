import Sismic.Proofs.Rename
import Sismic.Proofs.Sort
import Sismic.Proofs.GroupBy
import Sismic.Proofs.Lists
/-!
# Sismic.Proofs.Equivariant — the structural queries commute with an order-preserving renaming

`ρ` is a renaming of state names that is injective and order-preserving **on the names in play**
(`S`: the names the statechart mentions) — nothing is assumed about other strings, so renaming any
subset of the states of a statechart order-preservingly is covered.  Every query of `Statechart` the
interpreter uses (`state_for`, `parent_for`, `children_for`, `ancestors_for`, `depth_for`,
`descendants_for`, `least_common_ancestor`, `leaf_for`) and both sort orders give, on the substituted
statechart and substituted arguments, the substituted result.
-/
namespace Sismic

/-- `ρ` is injective and order-preserving on the names in `S` -/
structure RenOK (S : Name → Prop) (ρ : Name → Name) : Prop where
  inj : ∀ a b, S a → S b → ρ a = ρ b → a = b
  mono : ∀ a b, S a → S b → (ρ a ≤ ρ b ↔ a ≤ b)

/-- every name the statechart mentions is in `S` -/
structure NamesIn (S : Name → Prop) (c : Chart) : Prop where
  states : ∀ s ∈ c.states, S s.name
  memory : ∀ s ∈ c.states, ∀ m, s.memory = some m → S m
  parentK : ∀ p ∈ c.parent, S p.1
  parentV : ∀ p ∈ c.parent, ∀ q, p.2 = some q → S q
  childK : ∀ p ∈ c.children, ∀ k, p.1 = some k → S k
  childV : ∀ p ∈ c.children, ∀ x ∈ p.2, S x
  transS : ∀ t ∈ c.transitions, S t.source
  transT : ∀ t ∈ c.transitions, ∀ g, t.target = some g → S g

/-- a transition with its ends substituted and another identity -/
def Trans.relabel (ρ : Name → Name) (ι : Nat → Nat) (t : Trans) : Trans :=
  { t with id := ι t.id, source := ρ t.source, target := t.target.map ρ }

/-- `c'` is `c` with every state name substituted by `ρ` and every transition re-identified by `ι`
    (`c.mapNames ρ` is the case `ι = id`) -/
structure IsRen (ρ : Name → Name) (ι : Nat → Nat) (c c' : Chart) : Prop where
  states : c'.states = c.states.map (StateDef.rename ρ)
  parent : c'.parent = c.parent.map (fun p => (ρ p.1, p.2.map ρ))
  children : c'.children = c.children.map (fun p => (p.1.map ρ, p.2.map ρ))
  transitions : c'.transitions = c.transitions.map (Trans.relabel ρ ι)

theorem isRen_mapNames (ρ : Name → Name) (c : Chart) : IsRen ρ id c (c.mapNames ρ) :=
  ⟨rfl, rfl, rfl, rfl⟩

section
variable {S : Name → Prop}

/-! ### what the lookups give stays inside `S` -/

theorem NamesIn.parentFor_in {c : Chart} (hc : NamesIn S c) (n p : Name) (h : c.parentFor n = some p) : S p := by
  simp only [Chart.parentFor] at h
  split at h
  · rename_i k q hf
    subst h
    exact hc.parentV _ (List.mem_of_find?_eq_some hf) p rfl
  · cases h

theorem NamesIn.childrenFor_in {c : Chart} (hc : NamesIn S c) (n x : Name) (h : x ∈ c.childrenFor n) : S x := by
  simp only [Chart.childrenFor] at h
  split at h
  · rename_i k l hf
    exact hc.childV _ (List.mem_of_find?_eq_some hf) x h
  · cases h

theorem NamesIn.ancF_in {c : Chart} (hc : NamesIn S c) : ∀ (f : Nat) (n x : Name), x ∈ c.ancF f n → S x
  | 0, _, _, h => by simp [Chart.ancF] at h
  | f+1, n, x, h => by
    simp only [Chart.ancF] at h
    split at h
    · rename_i p hp
      rcases List.mem_cons.1 h with e | h'
      · subst e; exact hc.parentFor_in n _ hp
      · exact NamesIn.ancF_in hc f p x h'
    · cases h

end

section
variable {S : Name → Prop} {ρ : Name → Name} {ι : Nat → Nat} (hρ : RenOK S ρ)
include hρ

theorem RenOK.beq (a b : Name) (ha : S a) (hb : S b) : (ρ a == ρ b) = (a == b) := by
  by_cases h : a = b
  · subst h; rw [beq_self_eq_true, beq_self_eq_true]
  · have : ρ a ≠ ρ b := fun e => h (hρ.inj a b ha hb e)
    rw [beq_eq_false_iff_ne.2 h, beq_eq_false_iff_ne.2 this]

theorem RenOK.contains (l : List Name) (x : Name) (hl : ∀ y ∈ l, S y) (hx : S x) :
    (l.map ρ).contains (ρ x) = l.contains x := by
  induction l with
  | nil => simp
  | cons y ys ih =>
    have hy : S y := hl y (by simp)
    have := ih (fun z hz => hl z (by simp [hz]))
    simp only [List.map_cons, List.contains_cons]
    rw [hρ.beq x y hx hy]
    simp only [List.contains_eq_mem] at this ⊢
    rw [show (decide (ρ x ∈ List.map ρ ys)) = decide (x ∈ ys) from this]

theorem RenOK.mem (l : List Name) (x : Name) (hl : ∀ y ∈ l, S y) (hx : S x) :
    ρ x ∈ l.map ρ ↔ x ∈ l := by
  constructor
  · intro h
    obtain ⟨y, hy, e⟩ := List.mem_map.1 h
    exact (hρ.inj y x (hl y hy) hx e) ▸ hy
  · exact fun h => List.mem_map.2 ⟨x, h, rfl⟩

theorem RenOK.opt_beq (p r : Option Name) (hp : ∀ y, p = some y → S y) (hr : ∀ y, r = some y → S y) :
    (p.map ρ == r.map ρ) = (p == r) := by
  cases p with
  | none => cases r <;> rfl
  | some x =>
    cases r with
    | none => rfl
    | some y => simpa using hρ.beq x y (hp x rfl) (hr y rfl)

theorem stateFor_mapNames (c : Chart) (hc : NamesIn S c) {c' : Chart} (hr : IsRen ρ ι c c') (n : Name) (hn : S n) :
    c'.stateFor (ρ n) = (c.stateFor n).map (StateDef.rename ρ) := by
  simp only [Chart.stateFor, hr.states]
  exact find?_map_comm _ _ _ _ (fun s hs => hρ.beq _ _ (hc.states s hs) hn)

theorem hasState_mapNames (c : Chart) (hc : NamesIn S c) {c' : Chart} (hr : IsRen ρ ι c c') (n : Name) (hn : S n) :
    c'.hasState (ρ n) = c.hasState n := by
  simp [Chart.hasState, stateFor_mapNames hρ c hc hr n hn]

theorem kindOf_mapNames (c : Chart) (hc : NamesIn S c) {c' : Chart} (hr : IsRen ρ ι c c') (n : Name) (hn : S n) :
    c'.kindOf (ρ n) = c.kindOf n := by
  simp only [Chart.kindOf, stateFor_mapNames hρ c hc hr n hn, Option.map_map]
  congr 1

theorem parentFor_mapNames (c : Chart) (hc : NamesIn S c) {c' : Chart} (hr : IsRen ρ ι c c') (n : Name) (hn : S n) :
    c'.parentFor (ρ n) = (c.parentFor n).map ρ := by
  simp only [Chart.parentFor, hr.parent]
  rw [find?_map_comm _ (fun p => p.1 == n) _ _ (fun p hp => hρ.beq _ _ (hc.parentK p hp) hn)]
  cases c.parent.find? (fun p => p.1 == n) <;> rfl

theorem childrenFor_mapNames (c : Chart) (hc : NamesIn S c) {c' : Chart} (hr : IsRen ρ ι c c') (n : Name) (hn : S n) :
    c'.childrenFor (ρ n) = (c.childrenFor n).map ρ := by
  simp only [Chart.childrenFor, hr.children]
  rw [find?_map_comm _ (fun p => p.1 == some n) _ _
    (fun p hp => hρ.opt_beq p.1 (some n) (hc.childK p hp) (fun _ h => Option.some.inj h ▸ hn))]
  cases c.children.find? (fun p => p.1 == some n) <;> rfl

omit hρ in
theorem root_mapNames (c : Chart) {c' : Chart} (hr : IsRen ρ ι c c') : c'.root = c.root.map ρ := by
  simp only [Chart.root, hr.parent]
  rw [find?_map_comm _ (fun p => p.2 == none) _ _ (fun p _ => by cases p.2 <;> rfl), Option.map_map, Option.map_map]
  rfl

end

section
variable {S : Name → Prop} {ρ : Name → Name} {ι : Nat → Nat} (hρ : RenOK S ρ)
include hρ

theorem ancF_mapNames (c : Chart) (hc : NamesIn S c) {c' : Chart} (hr : IsRen ρ ι c c') : ∀ (f : Nat) (n : Name), S n →
    c'.ancF f (ρ n) = (c.ancF f n).map ρ
  | 0, _, _ => rfl
  | f+1, n, hn => by
    simp only [Chart.ancF, parentFor_mapNames hρ c hc hr n hn]
    cases hp : c.parentFor n with
    | none => rfl
    | some p =>
      simp only [Option.map_some, List.map_cons]
      rw [ancF_mapNames c hc hr f p (hc.parentFor_in n p hp)]

omit hρ in
theorem mapNames_states_length (c : Chart) {c' : Chart} (hr : IsRen ρ ι c c') : c'.states.length = c.states.length := by
  simp [hr.states]

theorem ancestors_mapNames (c : Chart) (hc : NamesIn S c) {c' : Chart} (hr : IsRen ρ ι c c') (n : Name) (hn : S n) :
    c'.ancestors (ρ n) = (c.ancestors n).map ρ := by
  simp only [Chart.ancestors, mapNames_states_length c hr]
  exact ancF_mapNames hρ c hc hr _ n hn

theorem depth_mapNames (c : Chart) (hc : NamesIn S c) {c' : Chart} (hr : IsRen ρ ι c c') (n : Name) (hn : S n) :
    c'.depth (ρ n) = c.depth n := by
  simp [Chart.depth, ancestors_mapNames hρ c hc hr n hn]

theorem descF_mapNames (c : Chart) (hc : NamesIn S c) {c' : Chart} (hr : IsRen ρ ι c c') : ∀ (f : Nat) (l : List Name), (∀ x ∈ l, S x) →
    c'.descF f (l.map ρ) = (c.descF f l).map ρ
  | 0, _, _ => rfl
  | _+1, [], _ => rfl
  | f+1, n :: rest, hl => by
    have hn : S n := hl n (by simp)
    simp only [List.map_cons, Chart.descF, childrenFor_mapNames hρ c hc hr n hn, List.map_append]
    rw [← List.map_append, descF_mapNames c hc hr f (rest ++ c.childrenFor n)]
    intro x hx
    rcases List.mem_append.1 hx with h | h
    · exact hl x (by simp [h])
    · exact hc.childrenFor_in n x h

theorem descendants_mapNames (c : Chart) (hc : NamesIn S c) {c' : Chart} (hr : IsRen ρ ι c c') (n : Name) (hn : S n) :
    c'.descendants (ρ n) = (c.descendants n).map ρ := by
  simp only [Chart.descendants, mapNames_states_length c hr]
  exact descF_mapNames hρ c hc hr _ [n] (by simpa using hn)

end

section
variable {S : Name → Prop}

theorem NamesIn.descF_in {c : Chart} (hc : NamesIn S c) : ∀ (f : Nat) (l : List Name) (x : Name),
    x ∈ c.descF f l → S x
  | 0, _, _, h => by simp [Chart.descF] at h
  | _+1, [], _, h => by simp [Chart.descF] at h
  | f+1, n :: rest, x, h => by
    simp only [Chart.descF] at h
    rcases List.mem_append.1 h with h | h
    · exact hc.childrenFor_in n x h
    · exact NamesIn.descF_in hc f _ x h

theorem NamesIn.descendants_in {c : Chart} (hc : NamesIn S c) (n x : Name) (h : x ∈ c.descendants n) : S x :=
  hc.descF_in _ _ x h

theorem NamesIn.ancestors_in {c : Chart} (hc : NamesIn S c) (n x : Name) (h : x ∈ c.ancestors n) : S x :=
  hc.ancF_in _ n x h

end

section
variable {S : Name → Prop} {ρ : Name → Name} {ι : Nat → Nat} (hρ : RenOK S ρ)
include hρ

theorem find?_contains_map (bs : List Name) (hb : ∀ y ∈ bs, S y) (l : List Name) (hl : ∀ y ∈ l, S y) :
    (l.map ρ).find? (fun x => (bs.map ρ).contains x) = (l.find? (fun x => bs.contains x)).map ρ :=
  find?_map_comm _ _ _ _ (fun y hy => hρ.contains bs y hb (hl y hy))

theorem lca_mapNames (c : Chart) (hc : NamesIn S c) {c' : Chart} (hr : IsRen ρ ι c c') (a b : Name) (ha : S a) (hb : S b) :
    c'.lca (ρ a) (ρ b) = (c.lca a b).map ρ := by
  simp only [Chart.lca, ancestors_mapNames hρ c hc hr a ha, ancestors_mapNames hρ c hc hr b hb]
  exact find?_contains_map hρ _ (fun y hy => hc.ancestors_in b y hy) _ (fun y hy => hc.ancestors_in a y hy)

theorem any_contains_map (names : List Name) (hn : ∀ y ∈ names, S y) (l : List Name) (hl : ∀ y ∈ l, S y) :
    (l.map ρ).any (fun d => (names.map ρ).contains d) = l.any (fun d => names.contains d) :=
  any_map_comm _ _ _ _ (fun y hy => hρ.contains names y hn (hl y hy))

theorem leafFor_mapNames (c : Chart) (hc : NamesIn S c) {c' : Chart} (hr : IsRen ρ ι c c') (names : List Name) (hn : ∀ y ∈ names, S y) :
    c'.leafFor (names.map ρ) = (c.leafFor names).map ρ :=
  filter_map_comm ρ _ _ names (fun y hy => by
    rw [descendants_mapNames hρ c hc hr y (hn y hy),
      any_contains_map hρ names hn _ (fun z hz => hc.descendants_in y z hz)])

omit hρ in
theorem insSorted_map {α β : Type} (g : α → β) (le : α → α → Bool) (le' : β → β → Bool) (x : α) :
    ∀ (l : List α), (∀ y ∈ l, le' (g x) (g y) = le x y) →
      insSorted le' (g x) (l.map g) = (insSorted le x l).map g
  | [], _ => rfl
  | y :: ys, h => by
    simp only [List.map_cons, insSorted, h y (by simp)]
    split
    · rfl
    · simp only [List.map_cons]
      rw [insSorted_map g le le' x ys (fun z hz => h z (by simp [hz]))]

omit hρ in
theorem isort_map {α β : Type} (g : α → β) (le : α → α → Bool) (le' : β → β → Bool) :
    ∀ (l : List α), (∀ x ∈ l, ∀ y ∈ l, le' (g x) (g y) = le x y) →
      isort le' (l.map g) = (isort le l).map g
  | [], _ => rfl
  | x :: xs, h => by
    have ih := isort_map g le le' xs (fun a ha b hb => h a (by simp [ha]) b (by simp [hb]))
    simp only [isort, List.map_cons, List.foldr_cons] at ih ⊢
    rw [ih]
    exact insSorted_map g le le' x _ (fun y hy => h x (by simp) y (by
      have := (mem_isort le xs y).1 hy
      simp [this]))

theorem leDepthName_mapNames (c : Chart) (hc : NamesIn S c) {c' : Chart} (hr : IsRen ρ ι c c') (a b : Name) (ha : S a) (hb : S b) :
    c'.leDepthName (ρ a) (ρ b) = c.leDepthName a b := by
  simp only [Chart.leDepthName, depth_mapNames hρ c hc hr a ha, depth_mapNames hρ c hc hr b hb, hρ.mono a b ha hb]

theorem leRevDepthName_mapNames (c : Chart) (hc : NamesIn S c) {c' : Chart} (hr : IsRen ρ ι c c') (a b : Name) (ha : S a) (hb : S b) :
    c'.leRevDepthName (ρ a) (ρ b) = c.leRevDepthName a b := by
  simp only [Chart.leRevDepthName, depth_mapNames hρ c hc hr a ha, depth_mapNames hρ c hc hr b hb, hρ.mono a b ha hb]

end

end Sismic
