import Sismic.Model.Bdd
/-!
# Property C19 — BDD verdicts are sound

`Sismic.Bdd` (Model/Bdd.lean) models `sismic/bdd/environment.py` (hooks) and the predefined steps
of `sismic/bdd/steps.py` on top of the interpreter model.  `holds c a` is the asserted fact,
computed from the monitored trace (`c.trace`) or from the interpreter's current state.
-/
namespace Sismic.C19
open Sismic.Bdd

/-- **A `then` step passes iff the asserted fact is true**, fails iff it is false, and is an
    error iff the fact cannot be evaluated (unknown state, expression raising) — provided some
    `when` step ran before. -/
theorem verdict_iff_fact (c : Ctx) (a : Assertion) (tr : List MacroStep) (h : c.trace = some tr) :
    ((runStep c (.check a)).1 = .passed ↔ holds { c with monitoring := false } a = some true) ∧
    ((runStep c (.check a)).1 = .failed ↔ holds { c with monitoring := false } a = some false) ∧
    ((runStep c (.check a)).1 = .error ↔ holds { c with monitoring := false } a = none) := by
  simp only [runStep, h]
  generalize holds _ a = r
  cases r with
  | none => exact ⟨by simp, by simp, by simp⟩
  | some b => cases b <;> exact ⟨by simp, by simp, by simp⟩

/-- a `then` step before any `when` step is an error of the `before_step` hook -/
theorem then_before_when (c : Ctx) (a : Assertion) (h : c.trace = none) :
    (runStep c (.check a)).1 = .hookError := by
  simp [runStep, h]

/-- a `then` step changes nothing but closes the current when-block -/
theorem then_only_closes_block (c : Ctx) (a : Assertion) :
    (runStep c (.check a)).2 = { c with monitoring := false } := by
  simp only [runStep]
  cases c.trace with
  | none => rfl
  | some tr => simp only; split <;> rfl

/-- untouched trace and open/closed state of the block -/
def SameBlock (c c' : Ctx) : Prop := c'.trace = c.trace ∧ c'.monitoring = c.monitoring

theorem SameBlock.trans {a b c : Ctx} (h1 : SameBlock a b) (h2 : SameBlock b c) : SameBlock a c :=
  ⟨h2.1.trans h1.1, h2.2.trans h1.2⟩

/-- `interpreter.execute()` itself touches neither -/
theorem execute_sameBlock (c : Ctx) : ∀ (n : Nat) (acc : List MacroStep), SameBlock c (execute c n acc).2.2
  | 0, _ => ⟨rfl, rfl⟩
  | n+1, acc => by
    simp only [execute]
    split
    · exact ⟨rfl, rfl⟩
    · exact ⟨rfl, rfl⟩
    · exact execute_sameBlock _ n _

/-- **The monitored trace is the current when-block.**  After a `when` step: if a block is open
    (no `then` since the previous `when`) the macro steps it produced are appended; otherwise a new
    block starts with exactly them.  (The first block contains the initialisation step when no
    `given` ran before.) -/
theorem when_extends_or_starts_block (c : Ctx) :
    (afterStep .when_ c).1.trace =
      some ((if c.monitoring then c.trace.getD [] else []) ++ (execute c fuel []).1) ∨
    (c.monitoring = true ∧ c.trace = none) := by
  have hb := execute_sameBlock c fuel []
  simp only [afterStep]
  cases hm : c.monitoring with
  | false => left; simp [hb.2, hm]
  | true =>
    cases ht : c.trace with
    | none => right; exact ⟨rfl, rfl⟩
    | some tr => left; simp [hb.1, hb.2, hm, ht]

/-- a `given` step executes unmonitored: the trace and the open/closed state of the block are untouched -/
theorem given_is_unmonitored (c : Ctx) :
    (afterStep .given c).1.trace = c.trace ∧ (afterStep .given c).1.monitoring = c.monitoring :=
  execute_sameBlock c fuel []

/-- **The facts.** `state s is entered` ⇔ some macro step of the block entered `s` (for a known state) … -/
theorem fact_entered (c : Ctx) (slot : Slot) (s : Name) (h0 : c.world.slots[0]? = some slot)
    (hk : slot.chart.hasState s = true) :
    holds c (.entered s) = some ((c.trace.getD []).any (fun m => m.entered.contains s)) ∧
    holds c (.notEntered s) = some (!(c.trace.getD []).any (fun m => m.entered.contains s)) ∧
    holds c (.exited s) = some ((c.trace.getD []).any (fun m => m.exited.contains s)) ∧
    holds c (.notExited s) = some (!(c.trace.getD []).any (fun m => m.exited.contains s)) ∧
    holds c (.active s) = some (slot.st.config.contains s) ∧
    holds c (.notActive s) = some (!slot.st.config.contains s) := by
  simp [holds, h0, hk]

/-- … `event e is fired with p=v…` ⇔ some macro step of the block sent an event named `e` all of whose
    listed parameters have the listed values; `final` ⇔ the interpreter is in a final configuration. -/
theorem fact_fired_final (c : Ctx) (slot : Slot) (n : String) (ps : List (String × Val))
    (h0 : c.world.slots[0]? = some slot) :
    holds c (.fired n ps) = some (((c.trace.getD []).flatMap (fun m => m.sent)).any
      (fun e => e.event.name == n && paramsMatch e.event ps)) ∧
    holds c .noEventFired = some ((c.trace.getD []).all (fun m => m.sent.isEmpty)) ∧
    holds c .final = some (slot.st.initialized && slot.st.config.isEmpty) := by
  simp [holds, h0]

/-- **The first step that does not pass skips the rest of the scenario.** -/
theorem first_failure_skips (c : Ctx) (s : Step) (rest : List Step) (h : (runStep c s).1 ≠ .passed) :
    runScenario c (s :: rest) = (runStep c s).1 :: rest.map (fun _ => .skipped) := by
  simp only [runScenario]

/-- a preorder on contexts that the leaf actions (`send`, `wait`) and the `after_step` hook of keyword
    `kw` respect -/
structure Kept (kw : Kw) (R : Ctx → Ctx → Prop) : Prop where
  refl : ∀ c, R c c
  trans : ∀ {a b c}, R a b → R b c → R a c
  send : ∀ c n ps, R c { c with world := c.world.modifySlot 0 (extQueue { name := n, data := ps }) }
  wait : ∀ c s, R c { c with clock := c.clock + s }
  after : ∀ c, R c (afterStep kw c).1

section Kept
variable {kw : Kw} {R : Ctx → Ctx → Prop} (hR : Kept kw R)
include hR

/-- one replayed sub-step, its `after_step` hook, then whatever `k` does next -/
theorem Kept.substep {a : Act} {c : Ctx} (h1 : R c (runAct kw a c).1)
    {k : Ctx → Ctx × Bool} (hk : ∀ c2, R c2 (k c2).1) :
    R c (match runAct kw a c with
      | (c1, true) => (c1, true)
      | (c1, false) => match afterStep kw c1 with
        | (c2, true) => (c2, true)
        | (c2, false) => k c2).1 := by
  generalize runAct kw a c = r at h1
  obtain ⟨c1, b1⟩ := r
  cases b1
  · have h2 := hR.after c1
    dsimp only
    generalize afterStep kw c1 = r2 at h2
    obtain ⟨c2, b2⟩ := r2
    cases b2
    · exact hR.trans (hR.trans h1 h2) (hk c2)
    · exact hR.trans h1 h2
  · exact h1

theorem Kept.runRepeat (inner : Act) (h : ∀ c, R c (runAct kw inner c).1) :
    ∀ n c, R c (runRepeat kw inner n c).1
  | 0, c => by simp only [Bdd.runRepeat]; exact hR.refl c
  | k+1, c => by simp only [Bdd.runRepeat]; exact hR.substep (h c) (Kept.runRepeat inner h k)

-- `repeat_` is kept out of the mutual block (it takes the fact about its body as a hypothesis), so
-- that both recursions are structural: inside, the case `inner (k+1)` would call the theorem about
-- actions on the same `inner`, and Lean has to search for a well-founded measure.
mutual
/-- **Whatever the leaf actions and the hook respect, a whole step body respects** — also
    `I repeat …` and `I reproduce "scenario"` with all the steps they replay. -/
theorem Kept.runAct : ∀ (a : Act) (c : Ctx), R c (runAct kw a c).1
  | .doNothing, c => by simp only [Bdd.runAct]; exact hR.refl c
  | .send n ps, c => by simp only [Bdd.runAct]; exact hR.send c n ps
  | .wait s, c => by simp only [Bdd.runAct]; exact hR.wait c s
  | .repeat_ inner n, c => by simp only [Bdd.runAct]; exact hR.runRepeat inner (Kept.runAct inner) n c
  | .seq inner, c => by simp only [Bdd.runAct]; exact Kept.runSeq inner c
  | .unknownScenario, c => by simp only [Bdd.runAct]; exact hR.refl c
theorem Kept.runSeq (l : List Act) (c : Ctx) : R c (runSeq kw l c).1 := by
  cases l with
  | nil => simp only [Bdd.runSeq]; exact hR.refl c
  | cons a rest => simp only [Bdd.runSeq]; exact hR.substep (Kept.runAct a c) (Kept.runSeq rest)
end

end Kept

/-- under `Given`, nothing touches the monitored trace or opens a block -/
theorem sameBlock_kept : Kept .given SameBlock where
  refl _ := ⟨rfl, rfl⟩
  trans := SameBlock.trans
  send _ _ _ := ⟨rfl, rfl⟩
  wait _ _ := ⟨rfl, rfl⟩
  after := given_is_unmonitored

theorem runAct_given (a : Act) (c : Ctx) : SameBlock c (runAct .given a c).1 := sameBlock_kept.runAct a c

theorem runSeq_given (l : List Act) (c : Ctx) : SameBlock c (runSeq .given l c).1 := sameBlock_kept.runSeq l c

theorem runRepeat_given (inner : Act) (n : Nat) (c : Ctx) : SameBlock c (runRepeat .given inner n c).1 :=
  sameBlock_kept.runRepeat inner (runAct_given inner) n c

/-- **A whole `given` step — also `I repeat …` and `I reproduce "scenario"` with all the steps they
    replay — is unmonitored**: whatever the replayed steps were in their own scenario, under `Given`
    they neither open a block of when-steps nor add to the monitored trace. -/
theorem given_step_is_unmonitored (c : Ctx) (a : Act) :
    (runStep c (.act .given a)).2.trace = c.trace ∧ (runStep c (.act .given a)).2.monitoring = c.monitoring := by
  simp only [runStep]
  have h1 := runAct_given a c
  obtain ⟨c1, b1, hx⟩ : ∃ c1 b1, runAct .given a c = (c1, b1) := ⟨_, _, rfl⟩
  rw [hx] at h1
  simp only [hx]
  have h2 : SameBlock c1 (afterStep .given c1).1 := given_is_unmonitored c1
  obtain ⟨c2, b2, hy⟩ : ∃ c2 b2, afterStep .given c1 = (c2, b2) := ⟨_, _, rfl⟩
  rw [hy] at h2
  cases b1 <;> cases b2 <;> simp only [hy] <;> exact h1.trans h2

end Sismic.C19
