import Sismic.Proofs.C15
import Sismic.Model.World
import Sismic.Props.C10
/-!
# Property C15 — bound statecharts: sent events reach every bound target once, in order

The chain: code sends an internal event → `_raise_event` queues it internally and raises one
`event sent` meta-event (`raiseSent`); every raised meta-event is handed once to each attached
listener in attachment order (`deliveries_once_in_order`); a listener created by `bind` forwards
`Event(name, **data)` for `event sent` meta-events and nothing else (`bind_forwards_*`).
-/
namespace Sismic.C15
open M

variable {σ ω : Type} (env : Env σ ω)

/-- what `InternalEventListener` reacts to -/
def isSentMeta (m : Event) : Bool := m.name == "event sent"

/-- the `event sent` meta-events a sent item produces: one per internal event (a user `notify`
    is forwarded only if the user named it `event sent` themself) -/
def forwarded : Sent → List Event
  | .internal e => [metaSent e]
  | .notify m => if isSentMeta m then [m] else []

theorem filter_sentMeta (s : Sent) : (sentMeta s).filter isSentMeta = forwarded s := by
  cases s with
  | notify m => simp only [sentMeta, forwarded, List.filter]; split <;> simp_all
  | internal e =>
    simp only [sentMeta, forwarded]
    split <;> simp [isSentMeta, metaSent, metaDelayed, List.filter]

/-- meta-events of a kind that is never `event sent` -/
theorem filter_map_other {α : Type} (f : α → Event) (h : ∀ a, isSentMeta (f a) = false) (l : List α) :
    (l.map f).filter isSentMeta = [] :=
  List.filter_eq_nil_iff.mpr fun b hb => by obtain ⟨a, _, rfl⟩ := List.mem_map.mp hb; simp [h a]

theorem filter_metaMicro (m : Micro) : (metaMicro m).filter isSentMeta = m.sent.flatMap forwarded := by
  simp only [metaMicro, List.filter_append, List.filter_flatMap, filter_sentMeta,
    filter_map_other metaExited (fun _ => rfl), filter_map_other metaEntered (fun _ => rfl),
    List.nil_append, List.append_nil]
  cases m.transition <;> simp [isSentMeta, metaProcessed]

/-- **Sent events and `event sent` meta-events agree, in order.**  For a call that returns a macro
    step, the `event sent` meta-events raised during the call are exactly one per internal event
    listed in `MacroStep.sent_events`, in that order; `step started`, `event consumed`, `state …`,
    `transition processed`, `delayed event sent` and `step ended` are never of that kind. -/
theorem announced_are_the_sent_events (clock : Int) (rs rs' : RS σ ω) (ms : MacroStep)
    (h : executeOnce env clock rs = (.ok (some ms), rs')) :
    ∃ new, rs'.eff = rs.eff ++ new ∧
      (metaOfEffects new).filter isSentMeta = ms.steps.flatMap (fun m => m.sent.flatMap forwarded) := by
  obtain ⟨new, consumed, heff, _, hm⟩ := C10.meta_stream env clock rs rs' ms h
  refine ⟨new, heff, ?_⟩
  rw [hm]
  simp only [List.filter_cons, List.filter_append, List.filter_flatMap, filter_metaMicro,
    filter_map_other metaConsumed (fun _ => rfl)]
  simp [isSentMeta, metaStarted, metaEnded]

/-- **Each listener, each meta-event, exactly once, in order — whatever the outcome of the call.**
    With listeners that record what they are handed, the record after `execute_once` is the
    record before plus, for each meta-event raised during the call (in order), one entry per
    attached listener (in attachment order). -/
theorem deliveries_once_in_order (env : Env σ (List (Nat × Event))) (hd : env.deliver = recDeliver)
    (clock : Int) (rs : RS σ (List (Nat × Event))) :
    ∃ new, (executeOnce env clock rs).2.eff = rs.eff ++ new ∧
      (executeOnce env clock rs).2.world =
        rs.world ++ (metaOfEffects new).flatMap (fun m => rs.st.listeners.map (fun k => (k, m))) :=
  deliveries_recorded env hd clock rs

/-- **Nothing after detach**: a listener that is not attached when the call starts is handed nothing. -/
theorem detached_gets_nothing (env : Env σ (List (Nat × Event))) (hd : env.deliver = recDeliver)
    (clock : Int) (rs : RS σ (List (Nat × Event))) (k : Nat) (hk : k ∉ rs.st.listeners) :
    ∃ added, (executeOnce env clock rs).2.world = rs.world ++ added ∧ ∀ p ∈ added, p.1 ≠ k := by
  obtain ⟨new, _, hw⟩ := deliveries_recorded env hd clock rs
  refine ⟨_, hw, ?_⟩
  intro p hp
  simp only [deliveries, List.mem_flatMap, List.mem_map] at hp
  obtain ⟨m, _, k', hk', rfl⟩ := hp
  exact fun h => hk (h ▸ hk')

/-- **Still queued for the sender itself**, whatever the listeners do (they can raise, change the
    outside world or queue *external* events on the sender, never touch its internal queue):
    after `_raise_event(InternalEvent e)` the internal queue holds `e`, due at step time + delay,
    behind the events due no later. -/
theorem sent_is_queued_internally (e : Event) (rs : RS σ ω) :
    (raiseSent env (.internal e) rs).2.st.intQ = queueInsert (rs.st.time + e.delay) e rs.st.intQ ∧
    (raiseSent env (.internal e) rs).2.st.time = rs.st.time := by
  -- raising a meta-event leaves the internal queue and the step time alone, whatever the outcome
  let R : RS σ ω → RS σ ω → Prop := fun r r' => r'.st.intQ = r.st.intQ ∧ r'.st.time = r.st.time
  have pre : PreOrd R := ⟨fun _ => ⟨rfl, rfl⟩, fun _ _ _ h1 h2 => ⟨h2.1.trans h1.1, h2.2.trans h1.2⟩⟩
  have hrm : ∀ m, Rel R (raiseMeta env m) := fun m r => by
    obtain ⟨q, h⟩ := extq_raiseMeta env m r
    exact ⟨by rw [h], by rw [h]⟩
  exact Rel.bind pre (hrm _) (fun _ => by split; exact hrm _; exact Rel.pure pre _)
    { rs with st := { rs.st with intQ := queueInsert (rs.st.time + e.delay) e rs.st.intQ } }

/-- **What `bind` forwards to a callable**: `Event(name, **data)` of the sent event for an
    `event sent` meta-event; nothing for any other meta-event (`notify`, `event consumed`, …). -/
theorem bind_forwards_to_callable (fuel i l k : Nat) (m : Event) (time : Int) (w : World)
    (hl : w.listeners[l]? = some (.bindCallback k)) :
    worldDeliver fuel i l m time w =
      if m.name == "event sent" then
        match assocGet "event" m.data with
        | some (.ev n d) => (.ok (), w.record k { name := n, data := d }, [])
        | _ => (.error (.listener l), w, [])
      else (.ok (), w, []) := by
  unfold worldDeliver
  simp only [hl]
  by_cases h : (m.name == "event sent") = true
  · rw [if_pos h, if_pos h]
    rcases assocGet "event" m.data with _ | v
    · rfl
    · cases v <;> rfl
  · rw [if_neg h, if_neg h]

/-- **What `bind` forwards to an interpreter**: the same event, queued as an *external* event of
    the target (of the sender itself for a self-binding). -/
theorem bind_forwards_to_interpreter (fuel i l j : Nat) (m : Event) (time : Int) (w : World)
    (hl : w.listeners[l]? = some (.bindInterp j)) :
    worldDeliver fuel i l m time w =
      if m.name == "event sent" then
        match assocGet "event" m.data with
        | some (.ev n d) =>
          if j == i then (.ok (), w, [{ name := n, data := d }])
          else (.ok (), w.modifySlot j (extQueue { name := n, data := d }), [])
        | _ => (.error (.listener l), w, [])
      else (.ok (), w, []) := by
  unfold worldDeliver
  simp only [hl]
  by_cases h : (m.name == "event sent") = true
  · rw [if_pos h, if_pos h]
    rcases assocGet "event" m.data with _ | v
    · rfl
    · cases v <;> rfl
  · rw [if_neg h, if_neg h]

/-- the forwarded event carries the name and parameters (delay included) of the event sent -/
theorem forwarded_payload (e : Event) :
    assocGet "event" (metaSent e).data = some e.toVal ∧ (metaSent e).name = "event sent" := by
  simp [metaSent, assocGet]

end Sismic.C15
