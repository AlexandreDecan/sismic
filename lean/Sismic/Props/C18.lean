import Sismic.Proofs.Frame
/-!
# Property C18 — a pickled or deep-copied interpreter continues exactly like the original

In the model an interpreter *is* a value: `(chart, ignore_contract, IState σ)` where `IState`
holds configuration, history memory, both event queues with their due times, entry/idle times,
step time, attached listeners and the evaluator's state `σ` (context and the frozen `__old__`
contexts).  `execute_once` is a function of that value, the clock reading and the outside world
(reached only through listeners).  "Snapshot and restore" is therefore the identity in the model,
and what the property claims of the *implementation* is that `pickle`/`deepcopy` preserve the
abstraction function — that is decided by the correspondence (`./check C18`: the restored
interpreter and the untouched twin are both compared, observation by observation, with the model
run in which the snapshot is the identity).  What can be proved in the model, and is used by that
argument, is that the value above is *all* the state: runs compose at every macro-step boundary,
and an interpreter without listeners neither reads nor writes anything else — so running a copy
cannot disturb the original.
-/
namespace Sismic.C18
open M

variable {σ ω : Type} (env : Env σ ω)

/-- a run of a step function at each of the given clock readings, stopping at the first exception -/
def runWith (f : Int → RS σ ω → Except Err (Option MacroStep) × RS σ ω) :
    List Int → RS σ ω → List (Except Err (Option MacroStep)) × RS σ ω
  | [], rs => ([], rs)
  | t :: ts, rs =>
    match f t rs with
    | (.error e, rs') => ([.error e], rs')
    | (.ok r, rs') => (.ok r :: (runWith f ts rs').1, (runWith f ts rs').2)

/-- `execute_once` at each of the given clock readings -/
def run : List Int → RS σ ω → List (Except Err (Option MacroStep)) × RS σ ω :=
  runWith (fun t rs => executeOnce env t rs)

def failed : List (Except Err (Option MacroStep)) → Bool
  | [] => false
  | .error _ :: _ => true
  | .ok _ :: r => failed r

theorem runWith_composes (f : Int → RS σ ω → Except Err (Option MacroStep) × RS σ ω) (a b : List Int) (rs : RS σ ω) :
    runWith f (a ++ b) rs =
      if failed (runWith f a rs).1 then runWith f a rs
      else ((runWith f a rs).1 ++ (runWith f b (runWith f a rs).2).1, (runWith f b (runWith f a rs).2).2) := by
  induction a generalizing rs with
  | nil => simp [runWith, failed]
  | cons t ts ih =>
    obtain ⟨res, rs', hx⟩ : ∃ res rs', f t rs = (res, rs') := ⟨_, _, rfl⟩
    cases res with
    | error e => simp [runWith, hx, failed]
    | ok r =>
      simp only [List.cons_append, runWith, hx, ih rs', failed]
      split <;> rfl

/-- **Every macro-step boundary is a valid snapshot point**: the run over `a ++ b` is the run over
    `a` followed — from the state then reached, and from nothing else — by the run over `b`. -/
theorem run_composes (a b : List Int) (rs : RS σ ω) :
    run env (a ++ b) rs =
      if failed (run env a rs).1 then run env a rs
      else ((run env a rs).1 ++ (run env b (run env a rs).2).1, (run env b (run env a rs).2).2) :=
  runWith_composes _ a b rs

/-- the listeners of the interpreter stay empty and the outside world is untouched -/
def Closed (rs rs' : RS σ ω) : Prop :=
  rs.st.listeners = [] → rs'.st.listeners = [] ∧ rs'.world = rs.world

theorem closed_pre : PreOrd (Closed : RS σ ω → RS σ ω → Prop) where
  refl _ := fun h => ⟨h, rfl⟩
  trans _ _ _ h1 h2 := fun h => ⟨(h2 (h1 h).1).1, ((h2 (h1 h).1).2).trans (h1 h).2⟩

theorem closed_respects : Respects env (Closed : RS σ ω → RS σ ω → Prop) where
  pre := closed_pre
  modify f hf := fun rs h => ⟨by simp only [M.modify]; rw [(hf rs.st).2]; exact h, rfl⟩
  emit e _ := fun rs h => ⟨h, rfl⟩
  raise m := fun rs h => by rw [raiseMeta_nil env m rs h]; exact ⟨h, rfl⟩
  contract := contract_of_prims env closed_pre
    (fun _ _ h => ⟨h, rfl⟩) (fun _ _ _ _ _ _ h => ⟨h, rfl⟩)

/-- **Running an interpreter that nothing is attached to touches nothing but itself** — whatever
    the outcome of the call.  (So executing a copy cannot disturb the original, and vice versa.) -/
theorem unobserved_step_is_local (clock : Int) (rs : RS σ ω) (h : rs.st.listeners = []) :
    (executeOnce env clock rs).2.world = rs.world ∧ (executeOnce env clock rs).2.st.listeners = [] := by
  have := rel_executeOnce (closed_respects env).toQ clock rs h
  exact ⟨this.2, this.1⟩

theorem unobserved_run_is_local (ts : List Int) (rs : RS σ ω) (h : rs.st.listeners = []) :
    (run env ts rs).2.world = rs.world := by
  induction ts generalizing rs with
  | nil => rfl
  | cons t ts ih =>
    have h1 := unobserved_step_is_local env t rs h
    obtain ⟨res, rs', hx⟩ : ∃ res rs', executeOnce env t rs = (res, rs') := ⟨_, _, rfl⟩
    rw [hx] at h1
    simp only [run] at ih
    cases res with
    | error e => simp only [run, runWith, hx]; exact h1.1
    | ok r => simp only [run, runWith, hx]; rw [ih rs' h1.2]; exact h1.1

end Sismic.C18
