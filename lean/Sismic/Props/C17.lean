import Sismic.Proofs.Edit
import Sismic.Proofs.Rename
import Sismic.Proofs.EquivPlan
import Sismic.Proofs.EquivRun
import Sismic.Proofs.PyRename
import Sismic.Props.C07
import Sismic.Props.C02
/-!
# Property C17 — renaming and copying states preserves behaviour

Proved here (structure): `rename_state` substitutes the name in both ends of every transition and
nothing else of a transition changes — in particular internal transitions stay internal — and
renaming a state to its own name is a no-op; and the whole statechart after `rename_state(a, b)` is
the statechart with `b` substituted for `a` everywhere (`Chart.mapNames`), declared in another
order (`rename_is_substitution`) — so, by C07, it *behaves* exactly as the substituted statechart
(`renamed_behaves_as_substituted`: same macro steps, same exception at the same step, for every
evaluator that does not read the history memory).  The interpreter itself is equivariant under the
substitution: every decision it takes from names and every effectful function commute with an
order-preserving relabelling (`renaming_commutes_with_execute_once`, `_with_execution`,
`rename_state_preserves_behaviour`) for evaluators and listeners that cannot tell the names apart
— a theorem for the modelled `PythonEvaluator` on statecharts whose code never calls `active`
(`python_runs_commute_with_renaming`, `rename_state_preserves_python_behaviour`).
`copy_from_statechart` is not modelled: it is composed of operations that are, and the composition
is checked by the tie only (lock-step execution of host and guest against each other and against
the interpreter model, DESIGN.md §7, C17).
-/
namespace Sismic.C17
open Sismic.Chart

/-- **Nothing but the name changes in transitions.** -/
theorem rename_substitutes_transition_ends (c : Chart) (a b : Name) (h : (c.renameState a b).1 = .ok ()) (hne : a ≠ b) :
    (c.renameState a b).2.transitions =
      c.transitions.map (fun t => { t with source := renameIn a b t.source, target := t.target.map (renameIn a b) }) :=
  renameState_transitions c a b h hne

/-- **Internal transitions stay internal** (and external ones external). -/
theorem rename_keeps_internal (c : Chart) (a b : Name) (h : (c.renameState a b).1 = .ok ()) (hne : a ≠ b) :
    ((c.renameState a b).2.transitions.map (fun t => t.target.isNone)) = c.transitions.map (fun t => t.target.isNone) :=
  renameState_keeps_internal c a b h hne

theorem rename_to_itself (c : Chart) (a : Name) : c.renameState a a = (.ok (), c) := rename_same_is_noop c a

/-- a failed renaming (existing new name, unknown old name) changes nothing -/
theorem rename_atomic (c : Chart) (a b : Name) (e : EditErr)
    (h : (c.renameState a b).1 = .error e) : (c.renameState a b).2 = c := renameState_atomic c a b e h

/-- **`rename_state` changes nothing but the name**: on a statechart whose three dictionaries are
    consistent (`Tidy`: what well-formed statecharts with duplicate-free dictionaries satisfy,
    `tidy_of_wf`), the result is the statechart with `b` substituted for `a` in every state name,
    `initial`, `memory`, parent/children entry and transition end — up to the order in which
    states, entries and children are registered. -/
theorem rename_is_substitution (c : Chart) (a b : Name) (ht : Tidy c) (h : (c.renameState a b).1 = .ok ()) (hne : a ≠ b) :
    ChartPerm (c.mapNames (renameIn a b)) (c.renameState a b).2 :=
  Sismic.rename_is_substitution c a b ht h hne

variable {σ ω : Type}

/-- **The renamed statechart behaves as the substituted one** (declaration order is invisible,
    C07): same macro steps for the same clock values, ending — if at all — with the same exception
    at the same step, from any pair of states that differ in the order of the history memory only. -/
theorem renamed_behaves_as_substituted (env env' : Env σ ω) (c : Chart) (a b : Name) (ht : Tidy c)
    (h : (c.renameState a b).1 = .ok ()) (hne : a ≠ b)
    (h1 : env.chart = c.mapNames (renameIn a b)) (h2 : env'.chart = (c.renameState a b).2)
    (hE : env'.E = env.E) (hi : env'.ignoreContract = env.ignoreContract) (hd : env'.deliver = env.deliver)
    (hf : env'.stabFuel = env.stabFuel) (hb : MemBlind env.E) (hw : WFChart env.chart)
    (clocks : List Int) (rs₁ : RS σ ω) (out : List (Except Err (Option MacroStep)))
    (hrun : C07.Run env clocks rs₁ out) : ∀ rs₂, Rel rs₁ rs₂ → C07.Run env' clocks rs₂ out :=
  C07.declaration_order_free_run
    ⟨by rw [h1, h2]; exact Sismic.rename_is_substitution c a b ht h hne, hE, hi, hd, hf⟩ hb hw clocks rs₁ out hrun

/-! ### the interpreter's decisions commute with an order-preserving renaming

`ρ` is only assumed injective and order-preserving **on the names the statechart mentions**
(`RenOK S ρ`, `NamesIn S c`): renaming any subset of the states order-preservingly is covered.
Everything the interpreter decides from names — which transitions are selected (and which guards
are evaluated, in which order), whether the selection is non-deterministic or conflicting and in
which order it is processed, which states each transition exits and enters in which order, and what
stabilisation does next (default children, history restoration by depth and name, orthogonal
siblings in name order) — is, on the substituted statechart, the substituted decision. -/

/-- **same selection**: same transitions (substituted), same guard evaluations in the same order;
    `c'` is `c` with the names substituted by `ρ` and the transitions re-identified by `ι`
    (`IsRen`; `c.mapNames ρ` with `ι = id`: `isRen_mapNames`) -/
theorem selection_commutes_with_renaming {S : Name → Prop} {ρ : Name → Name} {ι : Nat → Nat} (hρ : RenOK S ρ)
    (c : Chart) (hc : NamesIn S c) {c' : Chart} (hr : IsRen ρ ι c c') (cfg : List Name) (hcfg : ∀ x ∈ cfg, S x)
    (evName : Option String) (ok ok' : Trans → Bool → Bool)
    (hok : ∀ t ∈ c.transitions, ∀ b, ok' (t.relabel ρ ι) b = ok t b) :
    selectTransitions c' (cfg.map ρ) evName ok' =
      (selectTransitions c cfg evName ok).rename ρ ι :=
  selectTransitions_rename hρ c hc hr cfg hcfg evName ok ok' hok

/-- **same verdict of `_sort_transitions`, same processing order** -/
theorem ordering_commutes_with_renaming {S : Name → Prop} {ρ : Name → Name} {ι : Nat → Nat} (hρ : RenOK S ρ)
    (c : Chart) (hc : NamesIn S c) {c' : Chart} (hr : IsRen ρ ι c c') (ts : List Trans) (hts : ∀ t ∈ ts, t ∈ c.transitions) :
    sortTransitions c' (ts.map (Trans.relabel ρ ι)) =
      (sortTransitions c ts).map (List.map (Trans.relabel ρ ι)) :=
  sortTransitions_rename hρ c hc hr ts hts

/-- **same exit and entry lists, in the same order** -/
theorem steps_commute_with_renaming {S : Name → Prop} {ρ : Name → Name} {ι : Nat → Nat} (hρ : RenOK S ρ)
    (c : Chart) (hc : NamesIn S c) {c' : Chart} (hr : IsRen ρ ι c c') (cfg : List Name) (hcfg : ∀ x ∈ cfg, S x)
    (ev : Option Event) (ts : List Trans) (hts : ∀ t ∈ ts, t ∈ c.transitions) :
    createSteps c' (cfg.map ρ) ev (ts.map (Trans.relabel ρ ι)) =
      (createSteps c cfg ev ts).map (Micro.rename ρ ι) :=
  createSteps_rename hρ c hc hr cfg hcfg ev ts hts

/-- **same stabilisation** (history memory substituted) -/
theorem stabilisation_commutes_with_renaming {S : Name → Prop} {ρ : Name → Name} {ι : Nat → Nat} (hρ : RenOK S ρ)
    (c : Chart) (hc : NamesIn S c) {c' : Chart} (hr : IsRen ρ ι c c') (memory : List (Name × List Name))
    (hmk : ∀ p ∈ memory, S p.1) (hmv : ∀ p ∈ memory, ∀ x ∈ p.2, S x) (cfg : List Name) (hcfg : ∀ x ∈ cfg, S x) :
    stabilizationStep c' (renameMemory ρ memory) (cfg.map ρ) =
      (stabilizationStep c memory cfg).map (Micro.rename ρ ι) :=
  stabilizationStep_rename hρ c hc hr memory hmk hmv cfg hcfg

/-- the substituted statechart is an instance -/
example (ρ : Name → Name) (c : Chart) : IsRen ρ id c (c.mapNames ρ) := isRen_mapNames ρ c

/-! ### … and so does the whole interpreter

`EnvR ρ ι C S env env'`: `env'` runs the relabelled statechart (`IsRen`), `ρ` is injective and
order-preserving on the names `S` the statechart mentions, and neither the evaluators nor the
listeners of the two runs can tell: asked about the relabelled object in the relabelled state they
answer what the others answer about the original (code that does not mention state names — what
the tie generates for this property; listeners that do not look at the `state` / `source` /
`target` of the built-in meta-events).  Related states (`RSR`): same queues, times, sent events,
listeners and outside world; configuration, history memory and recorded entry / idle times
substituted; evaluator states related by `C`; effect logs related entry by entry (`EffR`). -/

/-- **One call of `execute_once` on the relabelled statechart returns the relabelled result**: the
    same macro step with the names substituted and the transitions re-identified (or nothing), or
    the same exception about the relabelled object; related states afterwards. -/
theorem renaming_commutes_with_execute_once {S : Name → Prop} {ρ : Name → Name} {ι : Nat → Nat} {C : σ → σ → Prop}
    {env env' : Env σ ω} (h : EnvR ρ ι C S env env') (clock : Int) (rs rs' : RS σ ω)
    (hr : RSR ρ ι C rs rs') (hg : GoodSt S rs.st) :
    OutcomeR ρ ι (executeOnce env clock rs).1 (executeOnce env' clock rs').1 ∧
      RSR ρ ι C (executeOnce env clock rs).2 (executeOnce env' clock rs').2 ∧
      GoodSt S (executeOnce env clock rs).2.st :=
  equivariant_executeOnce h clock rs rs' hr hg

/-- **Whole runs**: for every input history the relabelled statechart produces the original run
    with the names substituted — call by call the relabelled outcome, ending, if at all, with the
    same exception at the same call. -/
theorem renaming_commutes_with_execution {S : Name → Prop} {ρ : Name → Name} {ι : Nat → Nat} {C : σ → σ → Prop}
    {env env' : Env σ ω} (h : EnvR ρ ι C S env env') (clocks : List Int) (rs : RS σ ω)
    (out : List (Except Err (Option MacroStep))) (hrun : C07.Run env clocks rs out) :
    ∀ rs', RSR ρ ι C rs rs' → GoodSt S rs.st →
      ∃ out', C07.Run env' clocks rs' out' ∧ List.Forall₂ (OutcomeR ρ ι) out out' := by
  induction hrun with
  | nil rs => intro rs' _ _; exact ⟨[], C07.Run.nil rs', List.Forall₂.nil⟩
  | @ok t ts rs rs1 r out hx _ ih =>
    intro rs' hr hg
    obtain ⟨ho, hs, hgd⟩ := equivariant_executeOnce h t rs rs' hr hg
    rw [hx] at ho hs hgd
    cases h2 : executeOnce env' t rs' with
    | mk r' s' =>
      rw [h2] at ho hs
      cases ho with
      | ok m =>
        obtain ⟨out', hrun', hf⟩ := ih s' hs hgd
        exact ⟨_ :: out', C07.Run.ok h2 hrun', List.Forall₂.cons (.ok r) hf⟩
  | @error t ts rs rs1 e hx =>
    intro rs' hr hg
    obtain ⟨ho, _, _⟩ := equivariant_executeOnce h t rs rs' hr hg
    rw [hx] at ho
    cases h2 : executeOnce env' t rs' with
    | mk r' s' =>
      rw [h2] at ho
      cases ho with
      | error e e' he =>
        exact ⟨[.error e'], C07.Run.error h2, List.Forall₂.cons (.error e e' he) List.Forall₂.nil⟩

/-- … and a statechart that declares the relabelled one in another order (C07) runs like it: the
    common ending of the theorems about `rename_state` and about the YAML round trip. -/
theorem relabelled_then_redeclared {S : Name → Prop} {ρ : Name → Name} {ι : Nat → Nat} {C : σ → σ → Prop}
    {env env₁ env₂ : Env σ ω} (h : EnvR ρ ι C S env env₁) (hp : EnvPerm env₁ env₂) (hb : MemBlind env₁.E)
    (hw : WFChart env₁.chart) (clocks : List Int) (rs : RS σ ω) (out : List (Except Err (Option MacroStep)))
    (hrun : C07.Run env clocks rs out) (rs₂ : RS σ ω) (hr : RSR ρ ι C rs rs₂) (hg : GoodSt S rs.st) :
    ∃ out', C07.Run env₂ clocks rs₂ out' ∧ List.Forall₂ (OutcomeR ρ ι) out out' := by
  obtain ⟨out', hrun1, hf⟩ := renaming_commutes_with_execution h clocks rs out hrun rs₂ hr hg
  exact ⟨out', C07.declaration_order_free_run hp hb hw clocks rs₂ out' hrun1 rs₂
    ⟨rs₂.st.memory, rs₂.eff, rfl, fun _ => rfl⟩, hf⟩

/-- **`rename_state` preserves behaviour.**  `env` runs `c`; `env₂` runs the statechart
    `rename_state(a, b)` produced (in the order the code leaves it); in between stands `c` with `b`
    substituted for `a` everywhere (`mapNames`), which differs from the latter by declaration order
    only (`rename_is_substitution`, C07).  If `b` takes the place of `a` in the order of the names
    (`RenOK`, part of `EnvR`) and evaluator and listeners cannot tell the names apart, the renamed
    statechart produces, for every input history, the original run with the name substituted. -/
theorem rename_state_preserves_behaviour {S : Name → Prop} {C : σ → σ → Prop}
    (c : Chart) (a b : Name) (ht : Tidy c) (hren : (c.renameState a b).1 = .ok ()) (hne : a ≠ b)
    (env env₂ : Env σ ω) (h2 : env₂.chart = (c.renameState a b).2)
    (h : EnvR (renameIn a b) id C S env { env₂ with chart := c.mapNames (renameIn a b) })
    (hb : MemBlind env₂.E) (hw : WFChart (c.mapNames (renameIn a b)))
    (clocks : List Int) (rs : RS σ ω) (out : List (Except Err (Option MacroStep))) (hrun : C07.Run env clocks rs out)
    (rs₂ : RS σ ω) (hr : RSR (renameIn a b) id C rs rs₂) (hg : GoodSt S rs.st) :
    ∃ out', C07.Run env₂ clocks rs₂ out' ∧ List.Forall₂ (OutcomeR (renameIn a b) id) out out' :=
  relabelled_then_redeclared (env₂ := env₂) h
    ⟨by rw [h2]; exact Sismic.rename_is_substitution c a b ht hren hne, rfl, rfl, rfl, rfl⟩ hb hw
    clocks rs out hrun rs₂ hr hg

/-! non-vacuity of `EnvR`: a two-state statechart, the renaming `a ↦ b` (which keeps `a < r`), an
evaluator that looks at nothing and no listeners -/
section Example
def exChart : Chart :=
  { states := [{ name := "r", kind := .compound, initial := some "a" }, { name := "a", kind := .basic }],
    parent := [("r", none), ("a", some "r")], children := [(none, ["r"]), (some "r", ["a"]), (some "a", [])],
    transitions := [{ id := 0, source := "a", target := some "r", event := some "e" }] }
def exS (n : Name) : Prop := n = "r" ∨ n = "a"
def exRho (n : Name) : Name := if n = "a" then "b" else n
def exE : Evaluator Unit :=
  { guard := fun _ _ _ => some true, cond := fun _ _ _ _ _ => some true, exec := fun st _ _ => (st.ctx, some []),
    freeze := fun c _ => c }
def exEnv (c : Chart) : Env Unit Unit := { chart := c, E := exE, deliver := fun _ _ _ w => (.ok (), w, []) }

example : EnvR exRho id (fun _ _ => True) exS (exEnv exChart) (exEnv (exChart.mapNames exRho)) where
  ok := by
    constructor
    · rintro x y (rfl | rfl) (rfl | rfl) <;> simp [exRho]
    · rintro x y (rfl | rfl) (rfl | rfl) <;> decide
  ren := isRen_mapNames exRho exChart
  names := by
    refine ⟨?_, ?_, ?_, ?_, ?_, ?_, ?_, ?_⟩ <;> simp [exChart, exEnv, exS]
  initial := by simp [exChart, exEnv, exS]
  ignore := rfl
  fuel := rfl
  guard := fun _ _ _ _ _ _ _ _ => rfl
  cond := fun _ _ _ _ _ _ _ _ _ _ => rfl
  exec := fun _ _ _ _ _ _ _ _ => ⟨rfl, trivial⟩
  freeze := fun _ _ _ _ _ => trivial
  deliver := fun _ _ _ _ _ _ => rfl
end Example

/-! ### the evaluator the library ships

The hypothesis "the evaluator cannot tell the names apart" of the theorems above, discharged for the
model of `PythonEvaluator` (`Sismic.Model.Py`): `active(...)` is the only thing exposed to the code
of a statechart that depends on state names; code which never calls it evaluates and executes the
same under every configuration (`eval_config`, `exec_config` — by recursion on the syntax of the
code), and the entry / idle times and `__old__` snapshots are found under the
relabelled keys. -/

/-- **Statecharts run by the Python evaluator**: if no code of the statechart calls `active`, the
    relabelled statechart produces, for every input history, the original run with the names
    substituted — call by call, ending, if at all, with the same exception at the same call. -/
theorem python_runs_commute_with_renaming {S : Name → Prop} {ρ : Name → Name} (ι : Nat → Nat)
    (env env' : Env PyCtx ω) (hok : RenOK S ρ) (hren : IsRen ρ ι env.chart env'.chart) (hnames : NamesIn S env.chart)
    (hinit : ∀ s ∈ env.chart.states, ∀ i, s.initial = some i → S i)
    (hinj : ∀ i j, i ∈ env.chart.transitions.map (·.id) → j ∈ env.chart.transitions.map (·.id) → ι i = ι j → i = j)
    (hna : env.chart.NoActive)
    (hE : env.E = pyEvaluator) (hE' : env'.E = pyEvaluator) (hi : env'.ignoreContract = env.ignoreContract)
    (hf : env'.stabFuel = env.stabFuel)
    (hd : ∀ l m m' t w, MetaR ρ m m' → env'.deliver l m' t w = env.deliver l m t w)
    (clocks : List Int) (rs : RS PyCtx ω) (out : List (Except Err (Option MacroStep))) (hrun : C07.Run env clocks rs out)
    (rs' : RS PyCtx ω) (hr : RSR ρ ι (PyRen ρ ι S env.chart) rs rs') (hg : GoodSt S rs.st) :
    ∃ out', C07.Run env' clocks rs' out' ∧ List.Forall₂ (OutcomeR ρ ι) out out' :=
  renaming_commutes_with_execution
    (pyEnvR_rename ι env env' hok hren hnames hinit hinj hna hE hE' hi hf hd) clocks rs out hrun rs' hr hg

/-- **`rename_state` preserves the behaviour of statecharts run by the Python evaluator**: `env`
    runs `c`, `env₂` the statechart `rename_state(a, b)` left behind, both with `PythonEvaluator`
    and listeners that cannot tell the names apart.  If no code of `c` calls `active` and `b` takes
    the place of `a` in the order of the names, the renamed statechart produces, for every input
    history, the original run with `b` for `a`. -/
theorem rename_state_preserves_python_behaviour {S : Name → Prop}
    (c : Chart) (a b : Name) (ht : Tidy c) (hren : (c.renameState a b).1 = .ok ()) (hne : a ≠ b)
    (env env₂ : Env PyCtx ω) (h1 : env.chart = c) (h2 : env₂.chart = (c.renameState a b).2)
    (hok : RenOK S (renameIn a b)) (hnames : NamesIn S c)
    (hinit : ∀ s ∈ c.states, ∀ i, s.initial = some i → S i) (hna : c.NoActive)
    (hE : env.E = pyEvaluator) (hE₂ : env₂.E = pyEvaluator) (hi : env₂.ignoreContract = env.ignoreContract)
    (hf : env₂.stabFuel = env.stabFuel)
    (hd : ∀ l m m' t w, MetaR (renameIn a b) m m' → env₂.deliver l m' t w = env.deliver l m t w)
    (hw : WFChart (c.mapNames (renameIn a b)))
    (clocks : List Int) (rs : RS PyCtx ω) (out : List (Except Err (Option MacroStep))) (hrun : C07.Run env clocks rs out)
    (rs₂ : RS PyCtx ω) (hr : RSR (renameIn a b) id (PyRen (renameIn a b) id S c) rs rs₂) (hg : GoodSt S rs.st) :
    ∃ out', C07.Run env₂ clocks rs₂ out' ∧ List.Forall₂ (OutcomeR (renameIn a b) id) out out' := by
  subst h1
  refine rename_state_preserves_behaviour env.chart a b ht hren hne env env₂ h2 ?_ (hE₂ ▸ C07.pyEvaluator_memBlind) hw
    clocks rs out hrun rs₂ hr hg
  exact pyEnvR_rename id env { env₂ with chart := env.chart.mapNames (renameIn a b) } hok
    (isRen_mapNames _ _) hnames hinit (fun i j _ _ e => e) hna hE hE₂ hi hf hd

/-! non-vacuity of `Chart.NoActive`: a statechart with a guard, an action and a postcondition -/
section PyExample
def pyTrans : Trans :=
  { id := 0
    source := "a"
    target := some "r"
    event := some "e"
    guard := some { src := "x + 1 > 0", expr := some (.cmp (.binop .add (.name "x") (.const (.int 1))) [(.gt, .const (.int 0))]) }
    action := some { src := "x = x - 1", body := [.assign "x" (.binop .sub (.name "x") (.const (.int 1)))] }
    post := [{ src := "x <= __old__.x", expr := some (.cmp (.name "x") [(.le, .attr (.name "__old__") "x")]) }] }
def pyChart : Chart := { exChart with transitions := [pyTrans] }

example : pyChart.NoActive where
  guard := by
    intro t ht g hg
    simp only [pyChart, List.mem_singleton] at ht
    subst ht
    simp only [pyTrans, Option.some.injEq] at hg
    subst hg
    simp [Code.noActive, noActiveS, Expr.noActive, noActiveC]
  action := by
    intro t ht g hg
    simp only [pyChart, List.mem_singleton] at ht
    subst ht
    simp only [pyTrans, Option.some.injEq] at hg
    subst hg
    simp [Code.noActive, noActiveS, Stmt.noActive, Expr.noActive]
  onEntry := by
    intro s hs a ha
    simp only [pyChart, exChart, List.mem_cons, List.mem_nil_iff, or_false] at hs
    rcases hs with rfl | rfl <;> simp at ha
  onExit := by
    intro s hs a ha
    simp only [pyChart, exChart, List.mem_cons, List.mem_nil_iff, or_false] at hs
    rcases hs with rfl | rfl <;> simp at ha
  conds := by
    intro obj hobj k code hc
    cases obj with
    | state s =>
      simp only [ObjOf, pyChart, exChart, List.mem_cons, List.mem_nil_iff, or_false] at hobj
      rcases hobj with rfl | rfl <;> cases k <;> simp [Obj.conds] at hc
    | trans t =>
      simp only [ObjOf, pyChart, List.mem_singleton] at hobj
      subst hobj
      cases k <;> simp [Obj.conds, pyTrans] at hc
      subst hc
      simp [Code.noActive, noActiveS, Expr.noActive, noActiveC]
end PyExample

/-- non-vacuity: a renaming of two of the names of a statechart that keeps their order, and is not
    order-preserving on other strings (`"b" ↦ "zz"` jumps over `"c"`) -/
example : RenOK (fun n => n = "a" ∨ n = "b") (fun n => if n = "a" then "m" else if n = "b" then "zz" else n) := by
  constructor
  · rintro a b (rfl | rfl) (rfl | rfl) <;> simp
  · rintro a b (rfl | rfl) (rfl | rfl) <;> decide

/-! non-vacuity: the example statechart of C02 (orthogonal state, nested target, history state) is tidy -/
example : Tidy C02.exChart := tidy_of_wf _ C02.exChart_wf (by decide)

end Sismic.C17
