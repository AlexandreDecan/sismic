import Sismic.Proofs.Edit
import Sismic.Proofs.EditInv
import Sismic.Proofs.EditTree
import Sismic.Proofs.EditRefs
import Sismic.Proofs.EditValid
import Sismic.Proofs.EditAddIff
import Sismic.Proofs.EditAcyclic
import Sismic.Proofs.EditRemove
import Sismic.Props.C02
/-!
# Property C16 — structural editing keeps a statechart sound; failed edits change nothing

`Chart.addState` … `Chart.rotateTransition` (Model/Edit.lean) model the editing methods of
`sismic.model.Statechart` on its dict/list representation; each returns the chart *reached when it
raised*, so failure atomicity is a statement about what the code does before it raises.

Proved here: atomicity of six of the seven operations (for `remove_state`: when the state is
unknown), the exact effect of the transition operations, of `rename_state` on transitions and of
`move_state` on states/transitions, and — for **all seven** operations, whether they succeed or
raise, and for every sequence of them starting from an empty `Statechart` — preservation of
"every transition starts from a state that may own transitions and refers to existing states"
(`TransOK`, the part of validity that makes `Interpreter` lookups total) and of the mutual
consistency of the three dictionaries `_states`, `_parent`, `_children` (`Tidy`: no duplicate
keys, keys are exactly the states, `x ∈ children(p) ⇔ parent(x) = p`, no repetition among
children, at most one root, nobody is its own parent), and of "no `initial` of a compound state
and no `memory` of a history state dangles" (`RefsOK`: `remove_state` with its cascade,
`move_state` and `rename_state` reset or rewrite the references; `add_state` is the one way to
bring a dangling reference in, and does so only if the client hands it one), and of
**`validate()` itself**: on a statechart with consistent dictionaries `validate()` passes iff every
`initial` is a child of its compound state and every `memory` another child of the history state's
parent (`validate_iff`), and `remove_state` (cascade included, also when it raises half-way),
`move_state`, `rename_state`, the transition operations, and `add_state` of a state without
`initial` / `memory` keep that true — so does every session of them.  And the statechart stays **one
tree**: the parent relation stays acyclic (`Ranked`: a rank decreases from every state to its
parent; with the consistency above — one root, every state a child of its parent — that is a
tree) under all seven operations and every session; for `move_state` this is exactly what its check
`new_parent in [name] + descendants_for(name)` is for, `descendants_for` (breadth-first, as the code
computes it) being complete on a consistent acyclic statechart (DESIGN.md §7).  And the effect of
`remove_state` is exactly the documented one: the subtree of the state and the transitions touching
it disappear, nothing else changes (`remove_state_removes_exactly_the_subtree`).
-/
namespace Sismic.C16
open Sismic.Chart

/-- **A failed `add_state` changes nothing.** -/
theorem add_state_atomic (c : Chart) (s : StateDef) (p : Option Name) (e : EditErr)
    (h : (c.addState s p).1 = .error e) : (c.addState s p).2 = c := addState_atomic c s p e h

theorem add_transition_atomic (c : Chart) (t : Trans) (e : EditErr)
    (h : (c.addTransition t).1 = .error e) : (c.addTransition t).2 = c := addTransition_atomic c t e h

theorem remove_transition_atomic (c : Chart) (t : Trans) (e : EditErr)
    (h : (c.removeTransition t).1 = .error e) : (c.removeTransition t).2 = c := removeTransition_atomic c t e h

theorem rename_state_atomic (c : Chart) (a b : Name) (e : EditErr)
    (h : (c.renameState a b).1 = .error e) : (c.renameState a b).2 = c := renameState_atomic c a b e h

theorem move_state_atomic (c : Chart) (a b : Name) (e : EditErr)
    (h : (c.moveState a b).1 = .error e) : (c.moveState a b).2 = c := moveState_atomic c a b e h

/-- **A failed `rotate_transition` changes nothing** — also when the new source is valid and the new
    target is not (both ends are validated before either is assigned). -/
theorem rotate_transition_atomic (c : Chart) (i : Option Nat) (src : Option Name) (tgt : Option (Option Name))
    (e : EditErr) (h : (c.rotateTransition i src tgt).1 = .error e) : (c.rotateTransition i src tgt).2 = c :=
  rotateTransition_atomic c i src tgt e h

theorem remove_unknown_state_atomic (c : Chart) (n : Name) (h : c.hasState n = false) :
    c.removeState n = (.error .statechart, c) := by
  unfold removeState removeStateF
  simp [h]

/-- **`add_transition` appends exactly that transition**, and only from a state that may own
    transitions towards an existing state (or none). -/
theorem add_transition_effect (c : Chart) (t : Trans) (h : (c.addTransition t).1 = .ok ()) :
    (c.addTransition t).2 = { c with transitions := c.transitions ++ [t] } ∧
    (∃ s, c.stateFor t.source = some s ∧ s.kind.ownsTransitions = true) ∧
    (∀ tg, t.target = some tg → c.hasState tg = true) := addTransition_effect c t h

/-- **`remove_transition` removes exactly the first transition equal to the given one.** -/
theorem remove_transition_effect (c : Chart) (t : Trans) (h : (c.removeTransition t).1 = .ok ()) :
    (c.removeTransition t).2 = { c with transitions := eraseFirst (·.valEq t) c.transitions } :=
  removeTransition_effect c t h

/-- **`move_state` touches neither the set of states, their kinds, nor the transitions.** -/
theorem move_state_effect (c : Chart) (a b : Name) (h : (c.moveState a b).1 = .ok ()) :
    (c.moveState a b).2.transitions = c.transitions ∧
    (c.moveState a b).2.states.map (·.name) = c.states.map (·.name) ∧
    (c.moveState a b).2.states.map (·.kind) = c.states.map (·.kind) := moveState_effect c a b h

/-- **Transitions stay well-anchored** under `add_transition` and `remove_transition`. -/
theorem transitions_stay_anchored_add (c : Chart) (t : Trans) (hc : c.TransOK) (h : (c.addTransition t).1 = .ok ()) :
    (c.addTransition t).2.TransOK := addTransition_transOK c t hc h

theorem transitions_stay_anchored_remove (c : Chart) (t : Trans) (hc : c.TransOK) (h : (c.removeTransition t).1 = .ok ()) :
    (c.removeTransition t).2.TransOK := removeTransition_transOK c t hc h

theorem transitions_stay_anchored_add_state (c : Chart) (s : StateDef) (p : Option Name) (hc : c.TransOK)
    (h : (c.addState s p).1 = .ok ()) : (c.addState s p).2.TransOK := addState_transOK c s p hc h

/-- `remove_state` drops the transitions from and to the removed subtree, so none dangles -/
theorem transitions_stay_anchored_remove_state (c : Chart) (n : Name) (hc : c.TransOK)
    (h : (c.removeState n).1 = .ok ()) : (c.removeState n).2.TransOK := removeStateF_transOK_any _ c n hc

/-- `rename_state` rewrites both ends of every transition along with the state -/
theorem transitions_stay_anchored_rename (c : Chart) (a b : Name) (hc : c.TransOK)
    (h : (c.renameState a b).1 = .ok ()) : (c.renameState a b).2.TransOK := renameState_transOK c a b hc h

theorem transitions_stay_anchored_move (c : Chart) (a b : Name) (hc : c.TransOK)
    (h : (c.moveState a b).1 = .ok ()) : (c.moveState a b).2.TransOK := moveState_transOK c a b hc h

/-- `rotate_transition` only accepts a new source that may own transitions and a new target that exists -/
theorem transitions_stay_anchored_rotate (c : Chart) (i : Option Nat) (src : Option Name) (tgt : Option (Option Name))
    (hc : c.TransOK) (h : (c.rotateTransition i src tgt).1 = .ok ()) :
    (c.rotateTransition i src tgt).2.TransOK := rotateTransition_transOK c i src tgt hc h

/-- **Whatever a client does with the editing API** — any sequence of the seven operations, each
    succeeding or raising `StatechartError` and being caught — **transitions stay anchored.** -/
theorem any_edit_session_keeps_transitions_anchored (ops : List EditOp) (c : Chart) (hc : c.TransOK) :
    (c.applyEdits ops).TransOK := applyEdits_transOK ops c hc

/-- …in particular in every statechart built from `Statechart(name)` by the API alone. -/
theorem built_charts_have_anchored_transitions (nm : String) (ops : List EditOp) :
    (({ name := nm } : Chart).applyEdits ops).TransOK :=
  applyEdits_transOK ops _ (by intro t ht; simp at ht)

/-! ### parent / children stay mutually consistent -/

theorem dictionaries_stay_consistent_add (c : Chart) (s : StateDef) (p : Option Name) (ht : Tidy c)
    (h : (c.addState s p).1 = .ok ()) : Tidy (c.addState s p).2 := addState_tidy c s p ht h

/-- also when the recursive removal raises half-way -/
theorem dictionaries_stay_consistent_remove (c : Chart) (n : Name) (ht : Tidy c) : Tidy (c.removeState n).2 :=
  removeState_tidy c n ht

theorem dictionaries_stay_consistent_rename (c : Chart) (a b : Name) (ht : Tidy c)
    (h : (c.renameState a b).1 = .ok ()) : Tidy (c.renameState a b).2 := renameState_tidy c a b ht h

theorem dictionaries_stay_consistent_move (c : Chart) (a b : Name) (ht : Tidy c)
    (h : (c.moveState a b).1 = .ok ()) : Tidy (c.moveState a b).2 := moveState_tidy c a b ht h

/-- **Whatever a client does with the editing API** — any sequence of the seven operations, each
    succeeding or raising — **`_states`, `_parent` and `_children` stay mutually consistent**: every
    state has exactly one entry in `_parent` and one in `_children` and nothing else has; `x` is in
    the children list of `p` iff `p` is the parent of `x`; no list mentions a state twice; at most
    one state has no parent; nobody is its own parent. -/
theorem any_edit_session_keeps_dictionaries_consistent (ops : List EditOp) (c : Chart) (ht : Tidy c) :
    Tidy (c.applyEdits ops) := applyEdits_tidy ops c ht

/-- …in particular in every statechart built from `Statechart(name)` by the API alone. -/
theorem built_charts_have_consistent_dictionaries (nm : String) (ops : List EditOp) :
    Tidy (({ name := nm, children := [(none, [])] } : Chart).applyEdits ops) :=
  applyEdits_tidy ops _ (empty_tidy' nm none none)

/-! ### no `initial` / `memory` reference dangles -/

/-- **`remove_state` leaves no dangling reference** — the `initial` / `memory` that named the removed
    state or one of its descendants are reset; also when the recursive removal raises half-way. -/
theorem no_reference_dangles_after_remove (c : Chart) (n : Name) (hc : c.RefsOK) : (c.removeState n).2.RefsOK :=
  removeStateF_refsOK _ c n hc

/-- `move_state` resets the references to the moved state and touches no other -/
theorem no_reference_dangles_after_move (c : Chart) (a b : Name) (hc : c.RefsOK) (h : (c.moveState a b).1 = .ok ()) :
    (c.moveState a b).2.RefsOK := moveState_refsOK c a b hc h

/-- `rename_state` rewrites the references along with the name -/
theorem no_reference_dangles_after_rename (c : Chart) (a b : Name) (hc : c.RefsOK) (h : (c.renameState a b).1 = .ok ()) :
    (c.renameState a b).2.RefsOK := renameState_refsOK c a b hc h

/-- `add_state` breaks no reference, and brings in those of the new state only -/
theorem no_reference_dangles_after_add (c : Chart) (s : StateDef) (p : Option Name) (hc : c.RefsOK)
    (hs : c.StateRefsIn s) (h : (c.addState s p).1 = .ok ()) : (c.addState s p).2.RefsOK :=
  addState_refsOK c s p hc hs h

/-- **Whatever a client does with the editing API** — any sequence of the seven operations, each
    succeeding or raising — **no `initial` and no `memory` dangles**, as long as the states handed to
    `add_state` refer to states that exist when they are added (or to themselves). -/
theorem any_edit_session_leaves_no_dangling_reference (ops : List EditOp) (c : Chart) (hc : c.RefsOK)
    (hops : c.SessionRefsIn ops) : (c.applyEdits ops).RefsOK := by
  induction ops generalizing c with
  | nil => exact hc
  | cons op ops ih => exact ih _ (applyEdit_refsOK c op hc hops.1) hops.2

/-! ### `validate()` still passes -/

/-- what `validate()` means on a statechart with consistent dictionaries -/
theorem validate_means (c : Chart) (ht : Tidy c) : c.validate = true ↔ c.SoundRefs := validate_iff c ht

/-- **`remove_state` on a valid statechart leaves a valid statechart** — whatever it removed, and
    also when the recursive removal raised half-way. -/
theorem validate_passes_after_remove (c : Chart) (n : Name) (ht : Tidy c) (hv : c.validate = true) :
    (c.removeState n).2.validate = true := removeState_validate c n ht hv

theorem validate_passes_after_move (c : Chart) (a b : Name) (ht : Tidy c) (hv : c.validate = true)
    (h : (c.moveState a b).1 = .ok ()) : (c.moveState a b).2.validate = true := moveState_validate c a b ht hv h

theorem validate_passes_after_rename (c : Chart) (a b : Name) (ht : Tidy c) (hv : c.validate = true)
    (h : (c.renameState a b).1 = .ok ()) : (c.renameState a b).2.validate = true := renameState_validate c a b ht hv h

/-- `add_state` of a state whose `initial` / `memory` is not set yet -/
theorem validate_passes_after_add (c : Chart) (s : StateDef) (p : Option Name) (ht : Tidy c) (hv : c.validate = true)
    (hb : s.Bare) (h : (c.addState s p).1 = .ok ()) : (c.addState s p).2.validate = true :=
  (addState_validate_iff c s p ht hv h).2 (StateDef.Bare.fitsUnder hb c p)

/-- **Whatever a client does with the editing API** to a valid statechart — any sequence of the seven
    operations, each succeeding or raising, the added states coming without `initial` / `memory` —
    **`validate()` passes afterwards.** -/
theorem any_edit_session_keeps_validate_passing (ops : List EditOp) (c : Chart) (ht : Tidy c) (hv : c.validate = true)
    (hops : ∀ op ∈ ops, op.Bare) : (c.applyEdits ops).validate = true :=
  applyEdits_validate_fits ops c ht hv (fitsSession_of_bare ops c hops)

/-- **`add_state` and `validate()`, exactly.**  After a successful `add_state(s, p)` on a consistent
    statechart on which `validate()` passes, `validate()` passes **iff** `s` fits under `p`: a compound
    state comes without `initial` (it has no child yet), a history state without `memory` or with a
    memory that already is another child of `p`.  The condition is necessary as well as sufficient;
    `validate_passes_after_add` is the case of a state that comes with neither. -/
theorem validate_after_add_iff (c : Chart) (s : StateDef) (p : Option Name) (ht : Tidy c) (hv : c.validate = true)
    (h : (c.addState s p).1 = .ok ()) : (c.addState s p).2.validate = true ↔ s.FitsUnder c p :=
  addState_validate_iff c s p ht hv h

/-- **Any session whose added states fit where they are put** (decided against the statechart each
    `add_state` is applied to; bare states always fit) **keeps `validate()` passing** — every
    operation succeeding or raising. -/
theorem any_fitting_edit_session_keeps_validate_passing (ops : List EditOp) (c : Chart) (ht : Tidy c)
    (hv : c.validate = true) (hops : FitsSession ops c) : (c.applyEdits ops).validate = true :=
  applyEdits_validate_fits ops c ht hv hops

/-! non-vacuity: on the example statechart of C02, a deep history state remembering `y` fits under `p1`
(and is accepted there), a history state remembering a state of another region does not, and a compound
state that arrives with an `initial` never does -/
example : ({ name := "h2", kind := .deep, memory := some "y" } : StateDef).FitsUnder C02.exChart (some "p1") := by
  constructor
  · intro h; cases h
  · intro _ m hm
    cases hm
    exact ⟨by decide, "p1", rfl, by decide⟩
example : (C02.exChart.addState { name := "h2", kind := .deep, memory := some "y" } (some "p1")).1 = .ok () := by rfl
example : ¬ ({ name := "h2", kind := .deep, memory := some "u" } : StateDef).FitsUnder C02.exChart (some "p1") := by
  intro h
  obtain ⟨_, par, hp, hm⟩ := h.2 rfl "u" rfl
  cases hp
  revert hm
  decide
example : ¬ ({ name := "k", kind := .compound, initial := some "a" } : StateDef).FitsUnder C02.exChart (some "r") :=
  fun h => by have := h.1 rfl; cases this

/-! ### still one tree -/

/-- **`move_state` cannot close a cycle**: the new parent is outside the subtree that moves — which
    is what `descendants_for`, complete on a consistent acyclic statechart, is asked for. -/
theorem still_a_tree_after_move (c : Chart) (a b : Name) (ht : Tidy c) (hc : c.Ranked) (h : (c.moveState a b).1 = .ok ()) :
    (c.moveState a b).2.Ranked := moveState_ranked c a b ht hc h

theorem still_a_tree_after_add (c : Chart) (s : StateDef) (p : Option Name) (ht : Tidy c) (hc : c.Ranked)
    (h : (c.addState s p).1 = .ok ()) : (c.addState s p).2.Ranked := addState_ranked c s p ht hc h

theorem still_a_tree_after_rename (c : Chart) (a b : Name) (ht : Tidy c) (hc : c.Ranked)
    (h : (c.renameState a b).1 = .ok ()) : (c.renameState a b).2.Ranked := renameState_ranked c a b ht hc h

/-- whatever `remove_state` leaves, also when it raises half-way -/
theorem still_a_tree_after_remove (c : Chart) (n : Name) (ht : Tidy c) (hc : c.Ranked) : (c.removeState n).2.Ranked :=
  (removeStateF_rankedE _ c n (hc.rankedE ht)).ranked

/-- **Whatever a client does with the editing API** — any sequence of the seven operations, each
    succeeding or raising — **the parent relation stays acyclic**; together with
    `any_edit_session_keeps_dictionaries_consistent` (one root, children ⇔ parent): still one tree. -/
theorem any_edit_session_keeps_the_tree (ops : List EditOp) (c : Chart) (ht : Tidy c) (hc : c.Ranked) :
    Tidy (c.applyEdits ops) ∧ (c.applyEdits ops).Ranked :=
  ⟨applyEdits_tidy ops c ht, (applyEdits_rankedE ops c ht (hc.rankedE ht)).ranked⟩

/-- …in particular every statechart built from `Statechart(name)` by the API alone is a tree. -/
theorem built_charts_are_trees (nm : String) (ops : List EditOp) :
    (({ name := nm, children := [(none, [])] } : Chart).applyEdits ops).Ranked :=
  (applyEdits_rankedE ops _ (empty_tidy' nm none none) ⟨fun _ => 0, by intro e he; simp at he⟩).ranked

/-! ### what `remove_state` removes -/

/-- **`remove_state(n)` removes its descendants and every transition touching them — and nothing
    else**: afterwards the states are those that were not in the subtree of `n` (`Sub c n`: `n` or a
    descendant), each with the parent it had; the transitions are, in their old order, those whose
    source and target are outside that subtree. -/
theorem remove_state_removes_exactly_the_subtree (c : Chart) (n : Name) (ht : Tidy c) (hc : c.Ranked)
    (h : (c.removeState n).1 = .ok ()) :
    (∀ x, (c.removeState n).2.hasState x = true ↔ (c.hasState x = true ∧ ¬ Sub c n x)) ∧
    (∀ x, ¬ Sub c n x → (c.removeState n).2.parentFor x = c.parentFor x) ∧
    (c.removeState n).2.transitions.Sublist c.transitions ∧
    (∀ t, t ∈ (c.removeState n).2.transitions ↔
      (t ∈ c.transitions ∧ ¬ Sub c n t.source ∧ ∀ tg, t.target = some tg → ¬ Sub c n tg)) := by
  have hw := removeState_without c n ht hc h
  have one : ∀ x, (∀ k ∈ [n], ¬ Sub c k x) ↔ ¬ Sub c n x := fun _ => List.forall_mem_singleton
  refine ⟨fun x => by rw [hw.states x, one x], fun x hx => hw.parent x ((one x).2 hx), ?_, ?_⟩
  · rw [hw.transitions]; exact List.filter_sublist
  · intro t
    rw [hw.transitions, List.mem_filter, keepOutside_iff, one t.source]
    constructor
    · exact fun ⟨a, b, d⟩ => ⟨a, b, fun tg e => (one tg).1 (d tg e)⟩
    · exact fun ⟨a, b, d⟩ => ⟨a, b, fun tg e => (one tg).2 (d tg e)⟩

/-- **Every well-formed statechart** (W1–W8, duplicate-free dictionaries) **meets the hypotheses of the
    session theorems above**: its dictionaries are consistent, its parent relation is acyclic, and
    `validate()` passes — so after any editing session that adds bare states only it is still a tree
    with consistent dictionaries, anchored transitions and a passing `validate()`. -/
theorem edited_well_formed_statecharts_stay_sound (c : Chart) (h : WFChart c) (hx : tidyExtraB c = true)
    (ops : List EditOp) (hops : ∀ op ∈ ops, op.Bare) :
    Tidy (c.applyEdits ops) ∧ (c.applyEdits ops).Ranked ∧ (c.applyEdits ops).validate = true ∧
      (c.applyEdits ops).TransOK := by
  obtain ⟨ht, hv⟩ := validate_of_wf c h hx
  obtain ⟨r, hr, _⟩ := h.tree.rank
  have hrk : c.Ranked := ⟨r, hr⟩
  have htr : c.TransOK := by
    intro t hm
    obtain ⟨hs, htg⟩ := h.transitions t hm
    refine ⟨?_, htg⟩
    simp only [Chart.hasState, Option.isSome_iff_exists] at hs
    obtain ⟨sd, hsd⟩ := hs
    refine ⟨sd, hsd, ?_⟩
    exact h.sourceKind t hm sd.kind (by simp [Chart.kindOf, hsd])
  exact ⟨applyEdits_tidy ops c ht, (any_edit_session_keeps_the_tree ops c ht hrk).2,
    any_edit_session_keeps_validate_passing ops c ht hv hops, applyEdits_transOK ops c htr⟩

/-! non-vacuity: the example statechart of C02 is acyclic -/
example : C02.exChart.Ranked := by
  obtain ⟨r, hr, _⟩ := C02.exChart_wf.tree.rank
  exact ⟨r, hr⟩

/-! non-vacuity: the example statechart of C02 is tidy and valid -/
example : Tidy C02.exChart ∧ C02.exChart.validate = true :=
  ⟨tidy_of_wf _ C02.exChart_wf (by decide), by decide⟩

/-! non-vacuity: the example statechart of C02 (compound states with `initial`, a history state with
`memory`) has no dangling reference; removing the remembered state and moving its sibling is a session that qualifies -/
example : C02.exChart.RefsOK := refsOKB_sound _ (by decide)
example : C02.exChart.SessionRefsIn [.removeState "x", .moveState "y" "p2"] := ⟨trivial, trivial, trivial⟩

end Sismic.C16
