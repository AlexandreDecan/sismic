import Sismic.Proofs.Clock
import Mathlib.Algebra.Order.Ring.Int
/-!
# Property C14 — clocks are monotonic and faithful

`SimClock` (Model/Clock.lean) models `sismic.clock.SimulatedClock`; every operation receives the
values returned by the calls to `time.time()` it makes.  All statements hold over any linearly
ordered commutative ring `α` (ℤ, ℚ, ℝ …): Python's `int` and `Fraction` exactly, `float` up to rounding.
-/
namespace Sismic.C14
open SimClock

variable {α : Type} [CommRing α] [LinearOrder α] [IsStrictOrderedRing α]

/-- **Never backwards.** For every script of start/stop/speed/assignment/read operations whose
    real-time readings never decrease and whose speeds are non-negative, starting from a fresh
    clock, the successive values of `clock.time` never decrease. -/
theorem monotone (r₀ : α) (ops : List (ClockOp α)) (h : ChronoList r₀ ops) :
    (values ((SimClock.init r₀).run ops).2).Pairwise (· ≤ ·) :=
  (run_mono ops (SimClock.init r₀) r₀ ((SimClock.init r₀).now r₀)
    ⟨le_refl _, by simp [SimClock.init]⟩ (le_refl _) h).2

/-- **One operation never moves the clock backwards** (from any state satisfying the invariant). -/
theorem step_never_backwards (c : SimClock α) (op : ClockOp α) (r r' : α) (hI : Inv c r)
    (hs : speedOK op) (hc : Chrono r op r') : c.now r ≤ (c.step op).1.now r' :=
  (step_mono c op r r' hI hs hc).2

/-- **Assignment below the current time is rejected and changes nothing.** -/
theorem reject (c : SimClock α) (r₁ r₂ t : α) (h : t < c.now r₁) :
    c.step (.setTime r₁ r₂ t) = (c, .accepted false) := by
  have := (setTime_reject c r₁ r₂ t).mpr h
  simp [step, this]

/-- **An accepted assignment takes effect exactly.** -/
theorem assign_exact (c : SimClock α) (r₁ r₂ t : α) (h : ¬ t < c.now r₁) :
    ∃ c', c.step (.setTime r₁ r₂ t) = (c', .accepted true) ∧ c'.now r₂ = t := by
  cases hs : c.setTime r₁ r₂ t with
  | none => exact absurd ((setTime_reject c r₁ r₂ t).mp hs) h
  | some c' => exact ⟨c', by simp [step, hs], setTime_exact c r₁ r₂ t c' hs⟩

/-- **Stands still while stopped.** -/
theorem stopped_still (c : SimClock α) (h : c.play = false) (r r' : α) : c.now r = c.now r' :=
  now_stopped c h r r'

/-- **Advances by speed × elapsed real time while started.** -/
theorem rate (c : SimClock α) (h : c.play = true) (r r' : α) :
    c.now r' - c.now r = c.speed * (r' - r) :=
  now_rate c h r r'

/-- `stop()` freezes the value that `clock.time` showed at that instant. -/
theorem stop_freezes (c : SimClock α) (r r' : α) (h : c.play = true) :
    (c.stop r).now r' = c.now r :=
  stop_now c r r'

/-! non-vacuity: a concrete chronological script over ℤ -/
example : ChronoList (0 : Int) [.start 1, .read 3, .setSpeed 4 4 2, .read 6, .setTime 7 7 100, .stop 8, .read 9] := by
  simp [ChronoList, Chrono, speedOK]

example : values ((SimClock.init (0 : Int)).run
    [.start 1, .read 3, .setSpeed 4 4 2, .read 6, .setTime 7 7 100, .stop 8, .read 9]).2 = [2, 7, 102] := by
  decide

end Sismic.C14
