import Sismic.Proofs.C03
import Sismic.Proofs.Order
/-!
# Property C03 — steps run to completion in documented order and the trace tells the truth

`executeOnce` is the model of `Interpreter.execute_once` (Model/Interp.lean), generic in the
evaluator (arbitrary code semantics) and in the listeners.  `rs.eff` is the log of everything the
interpreter asks the evaluator to run or evaluate and of every meta-event it raises.
-/
namespace Sismic.C03
open M

variable {σ ω : Type} (env : Env σ ω)

/-- **The trace tells the truth about the code that ran.**  When `execute_once` returns a macro
    step, the code fragments executed during the call — exit code, transition actions, entry code,
    in order — are exactly the replay of the returned `MacroStep`: per micro step the exits, then
    the action, then the entries. -/
theorem code_ran_is_replay (clock : Int) (rs rs' : RS σ ω) (ms : MacroStep)
    (h : executeOnce env clock rs = (.ok (some ms), rs')) :
    ∃ new, rs'.eff = rs.eff ++ new ∧ new.filter Effect.isExec = replay ms := by
  obtain ⟨st1, first, tail, _, _, _, heff, _⟩ := executeOnce_some env clock rs rs' ms h
  refine ⟨_, heff, ?_⟩
  simp only [List.filter_append, List.filter_flatMap, exec_microLog, exec_finishLog,
    exec_planGuards, List.append_nil]
  split <;> rfl

/-- **No macro step, no code.** When `execute_once` returns `None`, no code fragment ran and the
    configuration is unchanged. -/
theorem nothing_ran (clock : Int) (rs rs' : RS σ ω)
    (h : executeOnce env clock rs = (.ok none, rs')) :
    rs'.st.config = rs.st.config ∧ ∃ new, rs'.eff = rs.eff ++ new ∧ new.filter Effect.isExec = [] := by
  obtain ⟨st1, hc, _, heff, _⟩ := executeOnce_none env clock rs rs' h
  refine ⟨hc, _, heff, ?_⟩
  simp only [List.filter_append, exec_finishLog, exec_planGuards, List.append_nil]
  rfl

/-- **The trace tells the truth about the configuration.**  The configuration (and the history
    memory) after the call are the exited/entered lists of the returned micro steps applied, in
    order, to the configuration before. -/
theorem configuration_is_trace_applied (clock : Int) (rs rs' : RS σ ω) (ms : MacroStep)
    (h : executeOnce env clock rs = (.ok (some ms), rs')) :
    (rs'.st.config, rs'.st.memory) = applyMicros env.chart (rs.st.config, rs.st.memory) ms.steps := by
  obtain ⟨_, _, _, _, _, hcm, _⟩ := executeOnce_some env clock rs rs' ms h
  exact hcm

/-- **Run to completion.**  The returned micro steps are, for each planned step in order (the
    initialisation step, the empty step consuming an unhandled event, or the sorted transitions'
    steps), that step followed by the stabilisation steps it makes necessary — each computed from
    the configuration reached so far — and only then the next planned step (`RunChain`); when the
    call returns nothing is left to stabilise. -/
theorem run_to_completion (clock : Int) (rs rs' : RS σ ω) (ms : MacroStep)
    (h : executeOnce env clock rs = (.ok (some ms), rs')) :
    ∃ computed, computed ≠ [] ∧
      RunChain env.chart (rs.st.config, rs.st.memory) computed ms.steps ∧
      stabilizationStep env.chart rs'.st.memory rs'.st.config = none := by
  obtain ⟨_, first, tail, _, hchain, hcm, _⟩ := executeOnce_some env clock rs rs' ms h
  refine ⟨first :: tail, List.cons_ne_nil _ _, hchain, ?_⟩
  have := runChain_stable env.chart first tail ms.steps _ hchain
  rwa [← hcm] at this

/-- **Exit order of a transition step: innermost first.**  The states `_create_steps` makes a
    transition exit are the active descendants of the exited subtree, by decreasing depth (ties by
    name), and last the top of that subtree. -/
theorem exits_innermost_first (c : Chart) (cfg : List Name) (ev : Option Event) (t : Trans) (tg : Name)
    (htg : t.target = some tg) :
    ∃ inner top, (createStep c cfg ev t).exited = inner ++ top ∧ top.length ≤ 1 ∧
      inner.Pairwise (fun a b => c.depth b < c.depth a ∨ (c.depth a = c.depth b ∧ a ≤ b)) := by
  simp only [createStep, htg]
  exact ⟨_, _, rfl, by split <;> simp, exited_sorted c cfg _⟩

/-- **Entry order of a transition step: outermost first.**  Each entered state is the parent of the
    next one; the last one is the target. -/
theorem entries_outermost_first (c : Chart) (hT : TreeOK c) (cfg : List Name) (ev : Option Event)
    (t : Trans) (tg : Name) (htg : t.target = some tg) :
    DownChain c (createStep c cfg ev t).entered ∧ (createStep c cfg ev t).entered.getLast? = some tg := by
  simp only [createStep, htg]
  exact ⟨enteredPath_downChain c hT tg _, by simp⟩

end Sismic.C03
