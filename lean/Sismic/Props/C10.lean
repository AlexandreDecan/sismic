import Sismic.Proofs.LogFilters
import Sismic.Proofs.ErrSpec
/-!
# Property C10 — property-statechart monitoring: complete, ordered, fail-fast

`metaOfEffects` extracts the meta-events raised during a call from the effect log; every raised
meta-event is handed to every attached listener (`raiseMeta`: log, then call the listeners in
order).
-/
namespace Sismic.C10
open M

variable {σ ω : Type} (env : Env σ ω)

/-- **The documented meta-events, in the order things happened.**  For a call that returns a
    macro step: `step started(time)`, `event consumed(event)` if an event is consumed, then per
    micro step `state exited` for each exited state, `transition processed(source, target, event)`,
    `state entered` for each entered state, `event sent` (and `delayed event sent`) / the user's
    `notify` event for each event the code sent; finally `step ended`. -/
theorem meta_stream (clock : Int) (rs rs' : RS σ ω) (ms : MacroStep)
    (h : executeOnce env clock rs = (.ok (some ms), rs')) :
    ∃ (new : List Effect) (consumed : List (Option Event)), rs'.eff = rs.eff ++ new ∧ consumed.length ≤ 1 ∧
      metaOfEffects new = metaStarted clock :: (consumed.map metaConsumed ++
        (ms.steps.flatMap metaMicro ++ [metaEnded])) := by
  obtain ⟨st1, first, tail, _, _, _, heff, _⟩ := executeOnce_some env clock rs rs' ms h
  refine ⟨_, if first.event.isSome then [(popEvent { st1 with initialized := true }).1] else [], heff,
    by split <;> simp, ?_⟩
  simp only [metaOf_append, metaOf_planGuards, hom_flatMap _ rfl metaOf_append, metaOf_microLog, metaOf_finishLog,
    List.nil_append]
  split <;> rfl

/-- for a call in which nothing happens: `step started`, `step ended` -/
theorem meta_stream_none (clock : Int) (rs rs' : RS σ ω)
    (h : executeOnce env clock rs = (.ok none, rs')) :
    ∃ new, rs'.eff = rs.eff ++ new ∧ metaOfEffects new = [metaStarted clock, metaEnded] := by
  obtain ⟨st1, _, _, heff, _⟩ := executeOnce_none env clock rs rs' h
  refine ⟨_, heff, ?_⟩
  simp only [metaOf_append, metaOf_planGuards, metaOf_finishLog, List.nil_append]
  rfl

/-- **Fail-fast.**  When a listener raises (a property statechart became final), `execute_once`
    raises that exception and the last thing that happened in the monitored interpreter is the
    raising of the meta-event being delivered: no later code, contract evaluation or meta-event. -/
theorem property_failure_is_immediate (hd : ListenerErrs env) (clock : Int) (rs rs' : RS σ ω) (l : Nat)
    (h : executeOnce env clock rs = (.error (.propertyFailed l), rs')) :
    ∃ m, rs'.eff.getLast? = some (.metaEv m) :=
  executeOnce_raisedAt env hd clock rs rs' _ h

/-- **The property statechart's clock shows the monitored step time**: when `execute_once` is left,
    whatever the outcome, the interpreter's time — what `callListener` hands to the listeners — is
    `clock`, the value sampled at the call. -/
theorem listeners_see_step_time (clock : Int) (rs : RS σ ω) :
    (executeOnce env clock rs).2.st.time = clock :=
  (executeOnce_time env clock rs).1

end Sismic.C10
