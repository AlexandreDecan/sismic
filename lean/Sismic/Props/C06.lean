import Sismic.Proofs.C06
import Sismic.Proofs.OkSpec
import Sismic.Proofs.LogFilters
import Sismic.Spec.WF
/-!
# Property C06 — history states restore exactly what was active

The run of `execute_once` is `applyMicros` over the returned micro steps, each stabilisation step
being `stabilizationStep` of the configuration and memory reached (`executeOnce_ok`, `RunChain`,
`StabChain`).  So the property is about three pure functions: what exiting a compound state
records (`exitPure`/`saveMem`), what leaves a record untouched, and what the stabilisation step of
an active history state enters (`leafStep`).
-/
namespace Sismic.C06

/-- **Restore step.**  The stabilisation step asked for by an active history state `h` exits `h`
    and enters its recorded memory — the declared default memory if nothing was ever recorded —
    sorted by (depth, name). -/
theorem restore_step (c : Chart) (mem : List (Name × List Name)) (h : Name) (s : StateDef)
    (hs : c.stateFor h = some s) (hk : s.kind.isHistory = true) :
    leafStep c mem h = some
      { exited := [h],
        entered := isort c.leDepthName
          (((memGet mem h).map (·.2)).getD s.memory.toList) } := by
  rw [leafStep_eq c mem hs]
  cases hkk : s.kind with
  | shallow | deep => unfold memGet; cases mem.find? (fun p => p.1 == h) <;> rfl
  | _ => rw [hkk] at hk; cases hk

/-- **Exactly the memory, parents before children**: the states entered by the restore step are
    the recorded ones (each once: a permutation), never a deeper state before a shallower one,
    and by name among equals. -/
theorem restored_exactly_parents_first (c : Chart) (l : List Name) :
    (isort c.leDepthName l).Perm l ∧
    (isort c.leDepthName l).Pairwise (fun a b => c.depth a < c.depth b ∨ (c.depth a = c.depth b ∧ a ≤ b)) := by
  refine ⟨isort_perm _ _, ?_⟩
  have := (leDepthName_total c).isort_sorted l
  refine this.imp ?_
  intro a b hab
  simpa [Chart.leDepthName] using hab

/-- when the compound state `p` is exited, its child `h` gets what `memoryOf` computes for it -/
theorem exit_records (c : Chart) (cfg0 : List Name) (cm : List Name × List (Name × List Name))
    (p h : Name) (a : List Name) (hp : (c.stateD p).kind = .compound) (hh : h ∈ c.childrenFor p)
    (hm : memoryOf c cfg0 (c.stateD p) h = .ok (some a)) :
    memGet (exitPure c cfg0 cm p).2 h = some (h, a) := by
  simp only [exitPure, hp, beq_self_eq_true, if_true]
  exact saveMem_hit c cfg0 _ h a hm _ _ hh

/-- **What the exit of the parent records, shallow**: when the compound state `p` is exited in a
    micro step that started in configuration `cfg0`, its shallow history child `h` gets the direct
    child of `p` active in `cfg0` (the implementation asserts there is exactly one). -/
theorem exit_records_shallow (c : Chart) (cfg0 : List Name) (cm : List Name × List (Name × List Name))
    (p h : Name) (hp : (c.stateD p).kind = .compound) (hh : h ∈ c.childrenFor p)
    (hk : c.kindOf h = some .shallow)
    (h1 : (cfg0.filter (fun x => (c.childrenFor p).contains x)).length = 1) :
    memGet (exitPure c cfg0 cm p).2 h = some (h, cfg0.filter (fun x => (c.childrenFor p).contains x)) := by
  apply exit_records c cfg0 cm p h _ hp hh
  simp only [memoryOf, hk, stateD_name]
  rw [if_neg (by simp only [bne_iff_ne, ne_eq, Decidable.not_not]; exact h1)]

/-- **… deep**: its deep history child gets every descendant of `p` active in `cfg0`. -/
theorem exit_records_deep (c : Chart) (cfg0 : List Name) (cm : List Name × List (Name × List Name))
    (p h : Name) (hp : (c.stateD p).kind = .compound) (hh : h ∈ c.childrenFor p)
    (hk : c.kindOf h = some .deep)
    (h1 : 1 ≤ (cfg0.filter (fun x => (c.descendants p).contains x)).length) :
    memGet (exitPure c cfg0 cm p).2 h = some (h, cfg0.filter (fun x => (c.descendants p).contains x)) := by
  apply exit_records c cfg0 cm p h _ hp hh
  simp only [memoryOf, hk, stateD_name]
  rw [if_neg (Nat.not_lt.mpr h1)]

/-- **Whatever happens in between**: a micro step that does not exit a state having `h` among its
    children leaves the record of `h` alone (entries never touch the memory, nor do exits of other
    states). -/
theorem record_kept (c : Chart) (cm : List Name × List (Name × List Name)) (m : Micro) (h : Name)
    (hex : ∀ n ∈ m.exited, h ∉ c.childrenFor n) :
    memGet (applyMicro c cm m).2 h = memGet cm.2 h := by
  simp only [applyMicro]
  exact foldl_exitPure_other c cm.1 h m.exited cm hex

theorem record_kept_steps (c : Chart) (h : Name) : ∀ (ms : List Micro) (cm : List Name × List (Name × List Name)),
    (∀ m ∈ ms, ∀ n ∈ m.exited, h ∉ c.childrenFor n) →
    memGet (applyMicros c cm ms).2 h = memGet cm.2 h
  | [], _, _ => rfl
  | m :: ms, cm, hall => by
    simp only [applyMicros, List.foldl_cons]
    have ih := record_kept_steps c h ms (applyMicro c cm m) (fun m' hm' => hall m' (List.mem_cons_of_mem _ hm'))
    simp only [applyMicros] at ih
    rw [ih, record_kept c cm m h (hall m List.mem_cons_self)]

/-- **The interpreter does just that**: after a call that returns a macro step, configuration and
    memory are the old ones with the returned micro steps applied; every step after a planned one
    is the stabilisation step (`leafStep` of the deepest, first-by-name leaf that asks for one) of
    the configuration and memory reached, until none is asked for — so default entry continues
    below whatever a history state restored. -/
theorem run_applies_the_steps {σ ω : Type} (env : Env σ ω) (clock : Int) (rs rs' : RS σ ω) (ms : MacroStep)
    (h : executeOnce env clock rs = (.ok (some ms), rs')) :
    (rs'.st.config, rs'.st.memory) = applyMicros env.chart (rs.st.config, rs.st.memory) ms.steps ∧
    ∃ planned, RunChain env.chart (rs.st.config, rs.st.memory) planned ms.steps := by
  obtain ⟨_, first, tail, _, hchain, hcm, _⟩ := executeOnce_some env clock rs rs' ms h
  exact ⟨hcm, first :: tail, hchain⟩

/-- a call that returns no macro step leaves the memory alone -/
theorem idle_keeps_memory {σ ω : Type} (env : Env σ ω) (clock : Int) (rs rs' : RS σ ω)
    (h : executeOnce env clock rs = (.ok none, rs')) : rs'.st.memory = rs.st.memory :=
  let ⟨_, _, hm, _⟩ := executeOnce_none env clock rs rs' h; hm

/-- within one micro step: the record written when `p` is exited survives the other exits of the step -/
theorem record_written_in_step (c : Chart) (cfg0 : List Name) (p h : Name) (a : List Name)
    (hrec : ∀ cm, memGet (exitPure c cfg0 cm p).2 h = some (h, a))
    (hother : ∀ n, n ≠ p → h ∉ c.childrenFor n) :
    ∀ (ex : List Name) (cm : List Name × List (Name × List Name)), p ∈ ex →
      memGet (ex.foldl (exitPure c cfg0) cm).2 h = some (h, a)
  | [], _, hin => absurd hin (by simp)
  | n :: rest, cm, hin => by
    simp only [List.foldl_cons]
    by_cases hr : p ∈ rest
    · exact record_written_in_step c cfg0 p h a hrec hother rest _ hr
    · have hn : n = p := by
        rcases List.mem_cons.mp hin with e | e
        · exact e.symm
        · exact absurd e hr
      subst hn
      rw [foldl_exitPure_other c cfg0 h rest _ (fun m hm => hother m (fun e => hr (e ▸ hm)))]
      exact hrec cm

/-- what the last exit of its parent `p` recorded for the history state `h` is still there at the
    end: earlier steps are overwritten, later ones do not touch it -/
theorem memory_is_last_exit (c : Chart) (hwf : WFChart c) (p h : Name) (hp : c.parentFor h = some p)
    (pre post : List Micro) (m : Micro) (cm : List Name × List (Name × List Name)) (a : List Name)
    (hin : p ∈ m.exited)
    (hrec : ∀ cm', memGet (exitPure c (applyMicros c cm pre).1 cm' p).2 h = some (h, a))
    (hlater : ∀ m' ∈ post, p ∉ m'.exited) :
    memGet (applyMicros c cm (pre ++ m :: post)).2 h = some (h, a) := by
  have hother : ∀ n, n ≠ p → h ∉ c.childrenFor n := by
    intro n hn hmem
    have := (hwf.children n h).mp hmem
    rw [hp] at this
    exact hn (Option.some.inj this).symm
  have e1 : applyMicros c cm (pre ++ m :: post) = applyMicros c (applyMicro c (applyMicros c cm pre) m) post := by
    simp [applyMicros, List.foldl_append]
  rw [e1, record_kept_steps c h post _ (fun m' hm' n hn => hother n (fun e => hlater m' hm' (e ▸ hn)))]
  simp only [applyMicro]
  exact record_written_in_step c _ p h _ hrec hother m.exited _ hin

/-- **What a shallow history state holds is what was active when its parent was last exited.**
    Let the micro steps `pre ++ m :: post` be applied from `cm`; if `m` exits the compound state `p`
    (the parent of the shallow history state `h`), and no later step exits `p`, then the memory of
    `h` afterwards is the direct child of `p` that was active when `m` started — whatever happened
    before, in between and afterwards. -/
theorem shallow_memory_is_last_exit (c : Chart) (hwf : WFChart c) (p h : Name)
    (hp : c.parentFor h = some p) (hkp : (c.stateD p).kind = .compound) (hk : c.kindOf h = some .shallow)
    (pre post : List Micro) (m : Micro) (cm : List Name × List (Name × List Name))
    (hin : p ∈ m.exited)
    (hone : ((applyMicros c cm pre).1.filter (fun x => (c.childrenFor p).contains x)).length = 1)
    (hlater : ∀ m' ∈ post, p ∉ m'.exited) :
    memGet (applyMicros c cm (pre ++ m :: post)).2 h =
      some (h, (applyMicros c cm pre).1.filter (fun x => (c.childrenFor p).contains x)) :=
  memory_is_last_exit c hwf p h hp pre post m cm _ hin
    (fun cm' => exit_records_shallow c _ cm' p h hkp ((hwf.children p h).mpr hp) hk hone) hlater

/-- … and a deep history state holds the whole active sub-configuration of that moment. -/
theorem deep_memory_is_last_exit (c : Chart) (hwf : WFChart c) (p h : Name)
    (hp : c.parentFor h = some p) (hkp : (c.stateD p).kind = .compound) (hk : c.kindOf h = some .deep)
    (pre post : List Micro) (m : Micro) (cm : List Name × List (Name × List Name))
    (hin : p ∈ m.exited)
    (hone : 1 ≤ ((applyMicros c cm pre).1.filter (fun x => (c.descendants p).contains x)).length)
    (hlater : ∀ m' ∈ post, p ∉ m'.exited) :
    memGet (applyMicros c cm (pre ++ m :: post)).2 h =
      some (h, (applyMicros c cm pre).1.filter (fun x => (c.descendants p).contains x)) :=
  memory_is_last_exit c hwf p h hp pre post m cm _ hin
    (fun cm' => exit_records_deep c _ cm' p h hkp ((hwf.children p h).mpr hp) hk hone) hlater

end Sismic.C06
