import Sismic.Proofs.Runner
/-!
# Property C20 — async runner: no step unreported, no event lost, orderly lifecycle

`Sismic.Runner` (Model/Runner.lean): the runner thread and any number of client threads as
sequential programs over atomic actions; `run I s sched` executes schedule `sched` (a list of
thread ids; thread 0 is the runner).  The statements about reports, hooks and pausing hold for
**every** schedule; those about `stop()`, the finished runner and the event queue are about a single
step of the runner thread, from any state.
Granularity: one atomic action per flag operation, hook, `execute_once`, `queue`, `sleep`, `join`;
pre-emption inside one of these Python-level calls is not modelled.
-/
namespace Sismic.C20
open Sismic.Runner

variable {ι ε μ : Type} (I : Interp ι ε μ)

/-- **No step unreported.**  Under every schedule, at every moment, the macro steps handed to
    `after_execute` (in order, cycle by cycle) followed by those of the cycle under way are exactly
    the macro steps `execute_once` returned, in order. -/
theorem reported_plus_inflight_is_executed (it : ι) (all : Bool) (clients : List (List (CAct ε))) (sched : List Nat) :
    let s := run I ({ it := it, executeAll := all, clients := clients } : St ι ε μ) sched
    s.reported.flatten ++ s.cycle = s.executed :=
  (inv_run I sched _ (inv_init it all clients)).reported

/-- … so whenever no cycle is under way (in particular once the runner has finished) every executed
    macro step has been reported exactly once, in order. -/
theorem every_step_reported_once (it : ι) (all : Bool) (clients : List (List (CAct ε))) (sched : List Nat)
    (h : inCycle (run I ({ it := it, executeAll := all, clients := clients } : St ι ε μ) sched).pc = false) :
    let s := run I ({ it := it, executeAll := all, clients := clients } : St ι ε μ) sched
    s.reported.flatten = s.executed := by
  have hi := inv_run I sched _ (inv_init (μ := μ) it all clients)
  have := hi.reported
  rw [hi.idle h] at this
  simpa using this

/-- **One per cycle unless `execute_all`.** -/
theorem one_step_per_cycle (it : ι) (clients : List (List (CAct ε))) (sched : List Nat) :
    ∀ c ∈ (run I ({ it := it, executeAll := false, clients := clients } : St ι ε μ) sched).reported, c.length ≤ 1 :=
  ((inv_run I sched _ (inv_init (μ := μ) it false clients)).one (run_executeAll I sched _)).1

/-- **`before_run` and `after_run` run exactly once**: never twice, and once the runner thread has
    finished both have run. -/
theorem hooks_once (it : ι) (all : Bool) (clients : List (List (CAct ε))) (sched : List Nat) :
    let s := run I ({ it := it, executeAll := all, clients := clients } : St ι ε μ) sched
    s.beforeRun ≤ 1 ∧ s.afterRun ≤ 1 ∧ (s.pc = .done → s.beforeRun = 1 ∧ s.afterRun = 1) := by
  have hi := inv_run I sched _ (inv_init (μ := μ) it all clients)
  refine ⟨?_, ?_, ?_⟩
  · rw [hi.before]; split <;> omega
  · rw [hi.after]; split <;> omega
  · intro hd
    rw [hi.before, hi.after, hd]
    simp

/-- **Pause.**  Along any schedule during which nobody unpauses, starts or stops the runner, the
    number of cycles started (`before_execute` calls) grows by at most one, and by none unless the
    runner had already passed its wait and not yet called `before_execute` — i.e. at most the cycle
    already under way is executed. -/
theorem pause_bounds_cycles (s : St ι ε μ) (sched : List Nat) (h : StaysPaused I s sched) :
    (run I s sched).cycles ≤ s.cycles + canStart s.pc :=
  paused_cycles I sched s h

/-- **`stop()` returns.**  With both flags set (and no other thread clearing them), the runner is
    never blocked and each of its steps strictly decreases `rank` (≤ 9): it reaches its end. -/
theorem stop_always_progresses (s : St ι ε μ) (hstop : s.stop = true) (hun : s.unpaused = true)
    (hall : s.executeAll = false) (hpc : s.pc ≠ .done) (hpc' : s.pc ≠ .notStarted) :
    ∃ s', runnerStep I s = some s' ∧ rank s'.pc < rank s.pc ∧ s'.stop = true ∧ s'.unpaused = true ∧
      s'.executeAll = false :=
  stop_progress I s hstop hun hall hpc hpc'

/-- **Nothing executes after the runner has finished** (after `stop()` / `wait()` returned). -/
theorem nothing_after_done (s : St ι ε μ) (h : s.pc = .done) : runnerStep I s = none := by
  simp [runnerStep, h]

/-- **Exactly once, in order.**  With the FIFO interpreter, every runner step leaves
    "consumed events followed by pending events" unchanged: events are consumed in the order they
    were queued, each once, none lost. -/
theorem events_exactly_once_in_order (fin : String) (s s' : St QI String String)
    (hq : ∀ e ∈ s.it.pending, e ≠ "<init>") (hs : runnerStep (qInterp fin) s = some s') :
    consumedAndPending s' = consumedAndPending s :=
  (events_runnerStep fin s s' hq hs).1

end Sismic.C20
