import Sismic.Proofs.RoundTrip
import Sismic.Proofs.RoundTripTree
import Sismic.Proofs.RoundTripBuild
import Sismic.Proofs.RoundTripRun
import Sismic.Props.C17
/-!
# Property C11 — YAML export/import round-trip is lossless

`exportDict`/`exportState`/`exportTransition` model `export_to_dict`; `importState`,
`importTransition`, `importContract` model the per-element importers of `import_from_dict`.
The YAML text layer (ruamel dump/load, the `schema` coercions) is *not* modelled: it is covered
by the tie only (`./check C11` round-trips through the real `export_to_yaml`/`import_from_yaml`
and compares with the model's dict-level round trip and, field by field, with the original).

Proved here, for every element whose code strings are stripped and non-empty (`plain`: what the
importer itself produces; the `==` clause of the property is stated for exactly those):
each transition and each state is read back exactly as it was written, and (second half of the
file) the whole document: `importDict (exportDict c)` succeeds and returns `c` up to the order of
registration and the identities of transitions.  Known findings K4/K5 (text layer) and K6 (an empty
event name is written and read as no event) are listed in `known_findings.json`.
-/
namespace Sismic.C11

/-- **Transitions round-trip**: source, target, event, guard, action, priority (incl. the
    `high`/`low` spellings and arbitrary integers) and the three contract lists. -/
theorem transition_roundtrip (t : Trans) (h : t.plain) :
    importTransition t.source (exportTransition t) = .ok { t with id := 0 } :=
  importTransition_export t h

/-- … and the result compares equal (`Transition.__eq__`) to the original -/
theorem transition_roundtrip_eq (t t' : Trans) (h : t.plain)
    (h' : importTransition t.source (exportTransition t) = .ok t') : t'.valEq t = true := by
  rw [importTransition_export t h] at h'
  obtain rfl := Except.ok.inj h'
  simp [Trans.valEq]

/-- **States round-trip**: name, kind (basic / compound / orthogonal / final / shallow or deep
    history), entry and exit code, initial state, history memory and the three contract lists
    (a composite state without children is written with an empty `states:` / `parallel states:`
    list, and it is the presence of that key that the importer tests). -/
theorem state_roundtrip (c : Chart) (f : Nat) (n : Name) (s : StateDef)
    (hs : c.stateFor n = some s) (hn : s.name = n) (hp : s.plain c) :
    importState (exportState c (f+1) n) = .ok s :=
  importState_export c f n s hs hp

/-- **Contracts round-trip** wherever they are embedded. -/
theorem contract_roundtrip (front back : List (String × Data)) (pre post inv : List Code)
    (hf : (Data.map front).get? "contract" = none) (hb : (Data.map back).get? "contract" = none)
    (h1 : ∀ c ∈ pre, c.plain) (h2 : ∀ c ∈ post, c.plain) (h3 : ∀ c ∈ inv, c.plain) :
    importContract (.map (front ++ exportContract pre post inv ++ back)) = .ok (pre, post, inv) :=
  importContract_export front back pre post inv hf hb h1 h2 h3

/-- non-vacuity: a transition with every field set is `plain` -/
example : ({ id := 3, source := "a", target := some "b", event := some "e", guard := some (mkCode "x > 1"),
             action := some (mkCode "x = 2"), priority := 7, pre := [mkCode "x >= 0"] } : Trans).plain := by
  refine ⟨?_, ?_, ?_, ?_, ?_, ?_, ?_⟩ <;> intro a ha <;> simp at ha <;> subst ha <;>
    first | decide | exact ⟨rfl, by decide, by decide⟩ | exact ⟨by decide, by decide⟩

/-- **Importing the exported document registers the original tree.** For a statechart whose exported
    tree can be read back (`Covered`: every state below the root is there under its own name, code
    strings are stripped and non-empty), `import_from_dict(export_to_dict(c))` — with any fuel above
    the number of states of the tree — is `add_state` / `add_transition` applied to exactly the lists
    `flatS` (the `StateDef`s with their parents) and `flatT` (the transitions, identity reset) in an
    empty statechart with the name, description and preamble of `c`, followed by `validate()`. -/
theorem document_roundtrip (c : Chart) (r : Name) (hr : c.root = some r)
    (hcov : Covered c (c.states.length + 1) r)
    (hdesc : c.description ≠ some "") (hpre : ∀ p, c.preamble = some p → p = mkCode p.src ∧ p.src ≠ "")
    (fuel : Nat) (hfuel : sizeS c (c.states.length + 1) r < fuel) :
    importDict fuel (exportDict c) =
      buildChart { name := c.name, description := c.description, preamble := c.preamble, children := [(none, [])] }
        (flatS c (c.states.length + 1) r none) (flatT c (c.states.length + 1) r) :=
  importDict_export c r hr hcov hdesc hpre fuel hfuel

/-- **Nothing foreign is registered**: every registered state is a `StateDef` of `c` (same name,
    kind, code, initial / memory, contracts: the very value) under a parent in whose children list it
    stands, and every registered transition is a transition of `c` but for its identity. -/
theorem nothing_foreign_registered (c : Chart) (f : Nat) (r : Name) :
    (∀ x ∈ flatS c f r none, (c.stateFor r = some x.1 ∧ x.2 = none) ∨
      ∃ m q, c.stateFor m = some x.1 ∧ x.2 = some q ∧ m ∈ c.childrenFor q) ∧
    (∀ t' ∈ flatT c f r, ∃ t ∈ c.transitions, t' = { t with id := 0 }) :=
  ⟨fun x hx => flatS_sound c f r none x hx, fun t' ht => flatT_sound c f r t' ht⟩

/-- **Nothing is forgotten**: in a well-formed statechart every state is registered with the parent
    `c` records for it, and every transition is registered. -/
theorem nothing_forgotten (c : Chart) (hw : WFChart c) (r : Name) (hr : c.root = some r) (F : Nat)
    (hcov : Covered c F r) :
    (∀ m sd, c.stateFor m = some sd → (sd, c.parentFor m) ∈ flatS c F r none) ∧
    (∀ t ∈ c.transitions, { t with id := 0 } ∈ flatT c F r) :=
  flat_complete c hw r hr F hcov

/-- **The round trip succeeds and is lossless** (document level): for every well-formed statechart
    whose exported tree can be read back (`Covered`), `import_from_dict(export_to_dict(c))` returns a
    statechart — every `add_state`, every `add_transition` and `validate()` accept — with the same
    name, description and preamble, in which every lookup of a state (its `StateDef`: name, kind,
    entry / exit code, initial, memory, contracts), of its parent and of its children (up to the
    order of the list) gives what it gives in `c`, and whose transitions are those of `c` but for
    their identities, up to order. -/
theorem roundtrip_succeeds_and_is_lossless (c : Chart) (hw : WFChart c) (r : Name) (hr : c.root = some r)
    (hcov : Covered c (c.states.length + 1) r)
    (hdesc : c.description ≠ some "") (hpre : ∀ p, c.preamble = some p → p = mkCode p.src ∧ p.src ≠ "")
    (fuel : Nat) (hfuel : sizeS c (c.states.length + 1) r < fuel) :
    ∃ c', importDict fuel (exportDict c) = .ok c' ∧
      c'.name = c.name ∧ c'.description = c.description ∧ c'.preamble = c.preamble ∧
      (∀ n, c'.stateFor n = c.stateFor n) ∧ (∀ n, c'.parentFor n = c.parentFor n) ∧
      (∀ q m, m ∈ c'.childrenFor q ↔ m ∈ c.childrenFor q) ∧ (∀ q, (c'.childrenFor q).Nodup) ∧
      (c'.transitions.map (fun t => { t with id := 0 })).Perm (c.transitions.map (fun t => { t with id := 0 })) := by
  obtain ⟨c', h1, h2, h3, h4, h5, h6, h7, h8, h9, _, _⟩ := import_export_succeeds c hw r hr hcov hdesc hpre fuel hfuel
  exact ⟨c', h1, h2, h3, h4, h5, h6, h7, h8, h9⟩

/-! ### the re-imported statechart behaves identically -/

/-- **Every input history produces the same run.**  For a well-formed statechart `c` whose exported
    tree can be read back (`Covered`), whose dictionaries hold no duplicate (`tidyExtraB`) and whose
    transitions have distinct identities: the statechart `c'` that `import_from_dict(export_to_dict(c))`
    returns, run by the modelled `PythonEvaluator` from a fresh state with the same listeners,
    produces call by call what `c` produces — the same macro steps (same consumed events, same
    states exited and entered in the same order, same events sent, same transitions but for their
    identities, which the importer assigns anew: `ι`) and, if the run ends with an exception, the
    same exception about the same object at the same call.
    (The proof goes through `c` with its transitions re-identified by `ι`: the relabelling theorem
    of C17 with `ρ = id`, then C07 — `c'` declares the same content in another order.) -/
theorem reimported_statechart_behaves_identically {ω : Type} (c : Chart) (hw : WFChart c) (hx : tidyExtraB c = true)
    (r : Name) (hr : c.root = some r) (hcov : Covered c (c.states.length + 1) r)
    (hdesc : c.description ≠ some "") (hpre : ∀ p, c.preamble = some p → p = mkCode p.src ∧ p.src ≠ "")
    (fuel : Nat) (hfuel : sizeS c (c.states.length + 1) r < fuel)
    (hids : (c.transitions.map (·.id)).Nodup) :
    ∃ c' ι, importDict fuel (exportDict c) = .ok c' ∧
      ∀ (env env' : Env PyCtx ω), env.chart = c → env'.chart = c' → env.E = pyEvaluator → env'.E = pyEvaluator →
        env'.ignoreContract = env.ignoreContract → env'.stabFuel = env.stabFuel → env'.deliver = env.deliver →
        ∀ (clocks : List Int) (rs : RS PyCtx ω) (out : List (Except Err (Option MacroStep))),
          C07.Run env clocks rs out → rs.eff = [] → rs.st.ctx.old = [] →
          ∃ out', C07.Run env' clocks rs out' ∧ List.Forall₂ (OutcomeR id ι) out out' := by
  obtain ⟨c', himp, _, _, _, F1, F2, F3, _, hT, htidy', hids'⟩ :=
    import_export_succeeds c hw r hr hcov hdesc hpre fuel hfuel
  have htidy : Tidy c := tidy_of_wf c hw hx
  obtain ⟨ι, hι⟩ := exists_reid c.transitions c'.transitions hids hT
  -- `ι` is injective on the identities of `c`
  have hinj : ∀ i j, i ∈ c.transitions.map (·.id) → j ∈ c.transitions.map (·.id) → ι i = ι j → i = j := by
    have hn : ((c.transitions.map (·.id)).map ι).Nodup := by
      have : (c'.transitions.map (·.id)).Perm ((c.transitions.map (fun t => t.reid (ι t.id))).map (·.id)) := hι.map _
      have e : (c.transitions.map (fun t => t.reid (ι t.id))).map (·.id) = (c.transitions.map (·.id)).map ι := by
        simp [List.map_map, Function.comp_def, Trans.reid]
      rw [e] at this
      exact this.nodup_iff.1 hids'
    intro i j hi hj e
    have h1 := find?_of_mem_key ι hn hi
    rw [e, find?_of_mem_key ι hn hj] at h1
    exact (Option.some.inj h1).symm
  refine ⟨c', ι, himp, ?_⟩
  intro env env' hc hc' hE hE' hi hf hd clocks rs out hrun heff hold
  -- in between stands `c` with its transitions re-identified
  refine C17.relabelled_then_redeclared (env₁ := { env' with chart := c.reid ι }) (env₂ := env')
    (pyEnvR_reid ι env _ (by rw [hc]) (by rw [hc]; exact hinj) hE hE' hi hf hd)
    ⟨by rw [hc']; exact chartPerm_of_lookups c c' _ htidy htidy' F1 F2 F3 hι, rfl, rfl, rfl, rfl⟩
    (by show MemBlind env'.E; rw [hE']; exact C07.pyEvaluator_memBlind) (wf_reid ι c hw) clocks rs out hrun rs ?_
    ⟨fun _ _ => trivial, fun _ _ => trivial, fun _ _ _ _ => trivial, fun _ _ => trivial, fun _ _ => trivial⟩
  refine ⟨⟨rfl, rfl, (renameMemory_id _).symm, (List.map_id _).symm, (renKeys_id _).symm, (renKeys_id _).symm,
    rfl, rfl, rfl, rfl, ⟨rfl, rfl, fun o _ => ?_⟩⟩, rfl, by rw [heff]; exact List.Forall₂.nil⟩
  rw [hold]; rfl

/-- non-vacuity: a compound root with a basic child and a transition is `Covered` -/
example : Covered
    { states := [{ name := "r", kind := .compound, initial := some "a" }, { name := "a", kind := .basic }],
      parent := [("r", none), ("a", some "r")], children := [(none, ["r"]), (some "r", ["a"]), (some "a", [])],
      transitions := [{ id := 0, source := "a", target := some "r", event := some "e" }] } 3 "r" := by
  refine ⟨{ name := "r", kind := .compound, initial := some "a" }, rfl, rfl, ?_, ?_, ?_⟩
  · refine ⟨?_, ?_, ?_, ?_, ?_, ?_, ?_⟩ <;> intro a ha <;> simp at ha
    subst ha; exact ⟨by decide, rfl⟩
  · intro t ht; simp [Chart.transitionsFrom] at ht
  · intro _ ch hch
    simp [Chart.childrenFor] at hch
    subst hch
    refine ⟨{ name := "a", kind := .basic }, rfl, rfl, ?_, ?_, ?_⟩
    · refine ⟨?_, ?_, ?_, ?_, ?_, ?_, ?_⟩ <;> intro a ha <;> simp at ha
    · intro t ht
      simp [Chart.transitionsFrom] at ht
      subst ht
      refine ⟨?_, ?_, ?_, ?_, ?_, ?_, ?_⟩ <;> intro a ha <;> simp at ha <;> subst ha <;>
        first | decide | exact ⟨by decide, by decide⟩
    · intro h; cases h

end Sismic.C11
