import Sismic.Proofs.C09
import Sismic.Proofs.Sim
import Sismic.Proofs.PyBlind
/-!
# Property C09 — contract checking is transparent

Proved here: with `ignore_contract=True` no contract condition is evaluated at all and no
`ContractError` is ever raised; and **the run that ignores contracts simulates the run that checks
them** as long as no condition fails or errs (`ignoring_simulates_checking`, `…_run`): same macro
steps (transitions, entered/exited states, sent events), same configuration, queues, memory and
times, same outside world, same log of executed code and meta-events — the contexts agree up to
any relation `eqv` the evaluator's guards and code cannot see through (`Blind`; for
`PythonEvaluator`: "equal except for the frozen `__old__` contexts", which only contract
conditions can read).  The tie runs every history under both settings, including the shipped
elevator / microwave contract charts.
-/
namespace Sismic.C09
open M

variable {σ ω : Type} (env : Env σ ω)

/-- **No contract condition is evaluated** when contracts are ignored — for every outcome of the call. -/
theorem no_evaluation_when_ignored (hi : env.ignoreContract = true) (clock : Int) (rs : RS σ ω) :
    ∃ l, (executeOnce env clock rs).2.eff = rs.eff ++ l ∧ ∀ e ∈ l, e.isCond = false :=
  ignored_no_evaluation env hi clock rs

/-- **No `ContractError` is ever raised** when contracts are ignored. -/
theorem no_contract_error_when_ignored (hi : env.ignoreContract = true) (hd : ListenerErrs env)
    (clock : Int) (rs rs' : RS σ ω) (o : ObjId) (c : String) :
    executeOnce env clock rs ≠ (.error (.precondition o c), rs') ∧
    executeOnce env clock rs ≠ (.error (.postcondition o c), rs') ∧
    executeOnce env clock rs ≠ (.error (.invariant o c), rs') := by
  refine ⟨?_, ?_, ?_⟩ <;> intro h <;> exact ignored_no_contract_error env hi hd clock rs rs' _ h

/-- **The micro step log differs only by the evaluations**: for the same micro step, what is logged
    with contract checking, minus the contract evaluations, is what is logged when ignoring them. -/
theorem log_differs_only_by_evaluations (c : Chart) (m : Micro) :
    (microLog c false m).filter (fun e => !e.isCond) = microLog c true m := by
  have hc : ∀ (kind : CondKind) (obj : Obj) (ev : Option Event),
      (contractLog false kind obj ev).filter (fun e => !e.isCond) = [] :=
    filter_contractLog _ (fun _ _ _ _ _ => rfl) false
  have hs : ∀ s, (sentLog s).filter (fun e => !e.isCond) = sentLog s := fun s => by
    cases s with
    | notify e => rfl
    | «internal» e => by_cases h : e.hasDelay = true <;> simp [sentLog, h]
  rw [hom_microLog _ rfl List.filter_append]
  unfold microLog
  cases m.transition <;>
    simp [exitLog, enterLog, transLog, List.filter_append, hc, hs, contractLog_true]

/-- **Transparency.**  If the evaluator's guards and code are blind to `eqv`, a call of
    `execute_once` that checks contracts and returns normally (no condition failed or raised) is
    matched, from every `Sim`-related state, by the same call ignoring contracts: same returned
    macro step, and again `Sim`-related states — i.e. equal configuration, memory, queues, times,
    listeners, sent events and outside world, `eqv`-related contexts, and the same log minus the
    condition evaluations. -/
theorem ignoring_simulates_checking (eqv : σ → σ → Prop) (hE : Blind env.E eqv)
    (hig : env.ignoreContract = false) (clock : Int) (rs₁ rs₂ rs₁' : RS σ ω) (r : Option MacroStep)
    (hs : Sim eqv rs₁ rs₂) (h : executeOnce env clock rs₁ = (.ok r, rs₁')) :
    ∃ rs₂', executeOnce env.ignoring clock rs₂ = (.ok r, rs₂') ∧ Sim eqv rs₁' rs₂' := by
  obtain ⟨r', rs₂', h2, hr, hs'⟩ := sim_executeOnce eqv env hE hig clock rs₁ rs₂ r rs₁' hs h
  exact ⟨rs₂', hr ▸ h2, hs'⟩

/-- what `Sim` says, spelled out -/
theorem sim_spelled_out (eqv : σ → σ → Prop) (rs₁ rs₂ : RS σ ω) (h : Sim eqv rs₁ rs₂) :
    rs₂.st.config = rs₁.st.config ∧ rs₂.st.memory = rs₁.st.memory ∧ rs₂.st.intQ = rs₁.st.intQ ∧
    rs₂.st.extQ = rs₁.st.extQ ∧ rs₂.st.time = rs₁.st.time ∧ rs₂.st.sentEvents = rs₁.st.sentEvents ∧
    rs₂.st.entryTime = rs₁.st.entryTime ∧ rs₂.st.idleTime = rs₁.st.idleTime ∧
    rs₂.world = rs₁.world ∧ eqv rs₁.st.ctx rs₂.st.ctx ∧
    rs₂.eff = rs₁.eff.filter Effect.notCond := by
  obtain ⟨x, rfl, hx⟩ := h
  exact ⟨rfl, rfl, rfl, rfl, rfl, rfl, rfl, rfl, rfl, hx, rfl⟩

/-- a run: successive calls of `execute_once` that all return normally, with what they returned -/
inductive RunOK (env : Env σ ω) : List Int → RS σ ω → List (Option MacroStep) → RS σ ω → Prop
  | nil (rs) : RunOK env [] rs [] rs
  | cons {t ts rs rs1 rs' r out} : executeOnce env t rs = (.ok r, rs1) → RunOK env ts rs1 out rs' →
      RunOK env (t :: ts) rs (r :: out) rs'

/-- **… for whole runs**: a run in which no contract condition fails or errs is reproduced, macro
    step by macro step, by the run that ignores contracts. -/
theorem ignoring_simulates_checking_run (eqv : σ → σ → Prop) (hE : Blind env.E eqv)
    (hig : env.ignoreContract = false) (clocks : List Int) (rs₁ rs₁' : RS σ ω)
    (out : List (Option MacroStep)) (hrun : RunOK env clocks rs₁ out rs₁') :
    ∀ rs₂, Sim eqv rs₁ rs₂ → ∃ rs₂', RunOK env.ignoring clocks rs₂ out rs₂' ∧ Sim eqv rs₁' rs₂' := by
  induction hrun with
  | nil rs => intro rs₂ hs; exact ⟨rs₂, RunOK.nil rs₂, hs⟩
  | cons hx _ ih =>
    intro rs₂ hs
    obtain ⟨rs2, h2, hs'⟩ := ignoring_simulates_checking env eqv hE hig _ _ rs₂ _ _ hs hx
    obtain ⟨rs₂', hr, hs''⟩ := ih rs2 hs'
    exact ⟨rs₂', RunOK.cons h2 hr, hs''⟩

/-- **… and the modelled `PythonEvaluator` satisfies the hypothesis**: guards and executed code read
    the context variables only, the frozen `__old__` contexts are read by postconditions and
    invariants alone.  So for the evaluator the tie runs, the transparency theorem holds
    unconditionally, with "contexts equal as sets of variables" as the relation. -/
theorem python_evaluator_transparent {ω : Type} (env : Env PyCtx ω) (hE : env.E = pyEvaluator)
    (hig : env.ignoreContract = false) (clocks : List Int) (rs₁ rs₁' : RS PyCtx ω)
    (out : List (Option MacroStep)) (hrun : RunOK env clocks rs₁ out rs₁') :
    ∀ rs₂, Sim sameVars rs₁ rs₂ →
      ∃ rs₂', RunOK env.ignoring clocks rs₂ out rs₂' ∧ Sim sameVars rs₁' rs₂' ∧
        rs₂'.st.ctx.vars = rs₁'.st.ctx.vars :=  by
  intro rs₂ hs
  obtain ⟨rs₂', h1, h2⟩ := ignoring_simulates_checking_run env sameVars (hE ▸ pyEvaluator_blind) hig
    clocks rs₁ rs₁' out hrun rs₂ hs
  refine ⟨rs₂', h1, h2, ?_⟩
  obtain ⟨x, rfl, hx⟩ := h2
  exact hx.1.symm

end Sismic.C09
