import Sismic.Proofs.C03
import Sismic.Spec.Legal
import Sismic.Proofs.Legal
import Sismic.Proofs.LegalMulti
import Sismic.Proofs.WFCheck
/-!
# Property C02 — the active configuration is always a legal, stable statechart configuration

`Legal` is the property's notion of a legal configuration, over the model's `Chart`.
Proved here, for all inputs: **legality** as an invariant, **stability** (after every call that
returns a macro step nothing remains to be entered by default; a call that returns `None` leaves the
configuration alone) and **final stays final** (an initialised interpreter with an empty
configuration keeps it, whatever events arrive).

**Legality is an inductive invariant** (`legal_preserved`, `legal_always`): for every well-formed
chart (`WFChart`, DESIGN.md §2 W1–W8, decided by `wfB`), every evaluator and listener, and every
call of `execute_once` that returns — initialisation, an event consumed without transition, one
transition wherever its source and target lie (nested inside orthogonal regions, history states,
ancestors, self-loops, the root), or several transitions at once (one per orthogonal region) —
the invariant `LInv` (configuration empty or `Legal`, history memory re-enterable) is preserved;
it holds initially (`legal_initially`), hence in every reachable state (`legal_always`).
Proof (`Proofs/Legal.lean`, `Proofs/LegalMulti.lean`, `Proofs/Desc.lean`): every micro step keeps
the configuration *semi-legal* (`Semi`: legal up to pending default entry — `createStep_semi_gen`,
`stabilizationStep_semi`, with the memory invariant `MemOK` for history restoration and
`semi_final_only` for final states); a semi-legal configuration on which no stabilisation step is
pending is legal (`semi_stable_legal`); when several transitions fire, what `_sort_transitions`
accepts is pairwise `Separated` (different regions of an orthogonal state), the steps planned in
the original configuration are applied to a configuration that still agrees with it on the
subtree they exit (`Pending`), and neither the other transitions' steps (`pending_after_other`)
nor stabilisation (`stab_untouched`) touch that subtree (`runChain_multi`).
-/
namespace Sismic.C02
open M

variable {σ ω : Type} (env : Env σ ω)

/-- **Stable.** After a call that returns a macro step, no state of the configuration asks for a
    stabilisation step any more: no active compound state with an initial state but no active
    child to enter, no active orthogonal state with an inactive child, no active history state,
    no active final child of the root. -/
theorem stable_after_step (clock : Int) (rs rs' : RS σ ω) (ms : MacroStep)
    (h : executeOnce env clock rs = (.ok (some ms), rs')) :
    stabilizationStep env.chart rs'.st.memory rs'.st.config = none := by
  obtain ⟨_, first, tail, _, hchain, hcm, _⟩ := executeOnce_some env clock rs rs' ms h
  have := runChain_stable env.chart first tail ms.steps _ hchain
  rw [← hcm] at this
  exact this

/-- a call that returns `None` changes neither configuration nor memory (so stability is kept) -/
theorem idle_keeps_configuration (clock : Int) (rs rs' : RS σ ω)
    (h : executeOnce env clock rs = (.ok none, rs')) :
    rs'.st.config = rs.st.config ∧ rs'.st.memory = rs.st.memory :=
  let ⟨_, hc, hm, _⟩ := executeOnce_none env clock rs rs' h; ⟨hc, hm⟩

theorem select_empty (c : Chart) (evName : Option String) (ok : Trans → Bool → Bool) :
    (selectTransitions c [] evName ok).selected = [] := by
  have hf : c.transitions.filter (fun t => ([] : List Name).contains t.source && (t.event.isNone || t.event == evName)) = [] := by
    simp
  simp only [selectTransitions, hf, List.filter_nil, selectGroup, keysSorted, List.foldl_nil]
  rfl

/-- **Once final it stays empty**: an initialised interpreter whose configuration is empty still
    has an empty configuration after any call that returns normally, whatever event is pending. -/
theorem final_stays_empty (clock : Int) (rs rs' : RS σ ω) (r : Option MacroStep)
    (h : executeOnce env clock rs = (.ok r, rs')) (hi : rs.st.initialized = true)
    (he : rs.st.config = []) : rs'.st.config = [] := by
  obtain ⟨st1, computed, _, hc1, _, _, _, hplan, _, _, hnil, hcons⟩ := executeOnce_ok env clock rs rs' _ h
  cases computed with
  | nil => rw [(hnil rfl).2.1, he]
  | cons first tail =>
    obtain ⟨steps, _, hchain, hcm, _⟩ := hcons first tail rfl
    have hcfg : (applyMicros env.chart (rs.st.config, rs.st.memory) steps).1 = [] := by
      -- nothing can be selected in an empty configuration: the plan is the bare consumption of the event
      rcases planOf_ok _ _ _ _ (hplan hi) with (h0 | ⟨e, h1⟩) | ⟨ts, ev, hne, hts, _⟩
      · cases h0
      · cases h1
        refine runChain_single_induction env.chart (P := fun cm => cm.1 = []) (fun cm s he hs => ?_)
          _ { event := some e } steps he hchain
        rw [he, stabilization_nil] at hs; cases hs
      · rw [hc1, he, select_empty] at hts
        exact absurd (sortTransitions_perm _ _ _ hts).eq_nil hne
    rw [← hcm] at hcfg
    exact hcfg

/-- `legalB` decides `Legal` (for duplicate-free configurations, which is what the interpreter's
    set is) — so the `legal` bit the tie compares after every step is the property's predicate -/
theorem legalB_sound (c : Chart) (cfg : List Name) (hn : cfg.Nodup) (h : legalB c cfg = true) : Legal c cfg := by
  simp only [legalB, Bool.and_eq_true, List.all_eq_true] at h
  obtain ⟨⟨⟨h1, h2⟩, h3⟩, h4⟩ := h
  refine ⟨?_, ?_, ?_, ?_, ?_, ?_, hn⟩
  · intro r hr; rw [hr] at h1; simpa using h1
  · exact h2
  · intro s hs p hp; have := h3 s hs; rw [hp] at this; simpa using this
  · intro z hz sd hsd hk
    have := h4 z hz
    rw [hsd] at this
    simp only [hk, beq_self_eq_true, if_true, Bool.and_eq_true, decide_eq_true_eq, Bool.or_eq_true,
      Bool.not_eq_true'] at this
    refine ⟨this.1, fun hi => ?_⟩
    rcases this.2 with h' | h'
    · rw [h'] at hi; exact absurd hi (by simp)
    · exact h'
  · intro z hz hk ch hch
    have := h4 z hz
    simp only [Chart.kindOf, Option.map_eq_some_iff] at hk
    obtain ⟨sd, hsd, hk⟩ := hk
    rw [hsd] at this
    simp only [hk] at this
    have : (c.childrenFor z).all cfg.contains = true := this
    exact List.contains_iff_mem.mp (List.all_eq_true.mp this ch hch)
  · intro s hs k hk
    have := h4 s hs
    simp only [Chart.kindOf, Option.map_eq_some_iff] at hk
    obtain ⟨sd, hsd, rfl⟩ := hk
    rw [hsd] at this
    cases hk : sd.kind <;> first | rfl | (simp only [hk] at this; exact absurd this Bool.false_ne_true)

/-- what is carried from one call of `execute_once` to the next -/
structure LInv (c : Chart) (st : IState σ) : Prop where
  notStarted : st.initialized = false → st.config = []
  legal : st.config = [] ∨ Legal c st.config
  memory : MemOK c st.memory

/-- a fresh interpreter satisfies the invariant -/
theorem legal_initially (c : Chart) (st : IState σ) (hi : st.initialized = false) (hc : st.config = [])
    (hm : st.memory = []) : LInv c st :=
  ⟨fun _ => hc, Or.inl hc, by rw [hm]; intro hs k l hf; simp at hf⟩

/-- **Legality is an inductive invariant of `execute_once`**: for every well-formed statechart,
    every evaluator, every listener and every call that returns normally — whatever event is
    consumed, however many transitions fire (one per orthogonal region), wherever their targets
    lie — if the configuration was empty-or-legal with a re-enterable history memory before the
    call, it is afterwards. -/
theorem legal_preserved (hwf : WFChart env.chart) (clock : Int) (rs rs' : RS σ ω) (r : Option MacroStep)
    (h : executeOnce env clock rs = (.ok r, rs')) (hinv : LInv env.chart rs.st) :
    LInv env.chart rs'.st := by
  obtain ⟨st1, computed, _, hc1, hm1, _, hinit, hplan, hi', _, hnil, hcons⟩ := executeOnce_ok env clock rs rs' _ h
  cases computed with
  | nil =>
    obtain ⟨_, hc, hm, _⟩ := hnil rfl
    refine ⟨?_, ?_, ?_⟩
    · intro hf; rw [hi'] at hf; cases hf
    · rw [hc]; exact hinv.legal
    · rw [hm]; exact hinv.memory
  | cons p tail =>
    obtain ⟨steps, _, hchain, hcm, _⟩ := hcons p tail rfl
    have hfin : SInv env.chart (applyMicros env.chart (rs.st.config, rs.st.memory) steps) := by
      cases hin : rs.st.initialized with
      | false =>
        have := hinit hin
        simp only [List.cons.injEq] at this
        obtain ⟨hp, ht⟩ := this
        subst ht
        have hcfg := hinv.notStarted hin
        obtain ⟨r0, hr0, _, _⟩ := hwf.root
        have e : applyMicro env.chart (rs.st.config, rs.st.memory) p = ([r0], rs.st.memory) := by
          rw [hp, hcfg, hr0]; rfl
        apply runChain_single env.chart hwf _ p steps _ hchain
        rw [e]
        exact ⟨Or.inr (semi_root env.chart hwf r0 hr0), hinv.memory⟩
      | true =>
        have hp := hplan hin
        have := planned_chain_inv env.chart hwf env.E st1 (p :: tail) steps hp
          (by rw [hc1]; exact hinv.legal) (by rw [hm1]; exact hinv.memory) (by rw [hc1, hm1]; exact hchain)
        rw [hc1, hm1] at this
        exact this
    rw [← hcm] at hfin
    have hstable := runChain_stable env.chart p tail steps _ hchain
    rw [← hcm] at hstable
    refine ⟨?_, ?_, hfin.2⟩
    · intro hf; rw [hi'] at hf; cases hf
    rcases hfin.1 with he | hS
    · exact Or.inl he
    · exact Or.inr (semi_stable_legal env.chart hwf hS hstable)

/-- what can happen to an interpreter: calls of `execute_once` that return normally, and anything
    else that leaves configuration, memory and the initialised flag alone (queueing events, moving
    the clock, attaching listeners, changing the context) -/
inductive Reach : RS σ ω → RS σ ω → Prop
  | refl (rs) : Reach rs rs
  | step {rs rs1 rs2} (clock : Int) (r : Option MacroStep) :
      executeOnce env clock rs = (.ok r, rs1) → Reach rs1 rs2 → Reach rs rs2
  | other {rs rs1 rs2} : rs1.st.config = rs.st.config → rs1.st.memory = rs.st.memory →
      rs1.st.initialized = rs.st.initialized → Reach rs1 rs2 → Reach rs rs2

/-- **The active configuration is always empty or legal**: in every state reachable from a fresh
    interpreter (`legal_initially`) by any history of events, clock moves and steps. -/
theorem legal_always (hwf : WFChart env.chart) (rs rs' : RS σ ω) (hr : Reach env rs rs')
    (hinv : LInv env.chart rs.st) : LInv env.chart rs'.st := by
  induction hr with
  | refl => exact hinv
  | step clock r hx _ ih => exact ih (legal_preserved env hwf clock _ _ r hx hinv)
  | other hc hm hi _ ih =>
    apply ih
    exact ⟨fun hf => by rw [hc]; exact hinv.notStarted (hi ▸ hf), by rw [hc]; exact hinv.legal,
      by rw [hm]; exact hinv.memory⟩

/-! ### non-vacuity: a statechart with an orthogonal state, a nested target and a history state is
    well-formed (by the decision procedure `wfB`, which the driver also evaluates on every generated
    chart — `wf` in the observations, compared with an independent Python implementation) -/

def exChart : Chart :=
  { states := [{ name := "r", kind := .compound, initial := some "a" },
               { name := "a", kind := .basic },
               { name := "p", kind := .orthogonal },
               { name := "p1", kind := .compound, initial := some "x" },
               { name := "p2", kind := .compound, initial := some "u" },
               { name := "x", kind := .basic }, { name := "y", kind := .basic },
               { name := "h", kind := .shallow, memory := some "x" },
               { name := "u", kind := .basic }, { name := "f", kind := .final }],
    parent := [("r", none), ("a", some "r"), ("p", some "r"), ("p1", some "p"), ("p2", some "p"),
               ("x", some "p1"), ("y", some "p1"), ("h", some "p1"), ("u", some "p2"), ("f", some "r")],
    children := [(none, ["r"]), (some "r", ["a", "p", "f"]), (some "a", []), (some "p", ["p1", "p2"]),
                 (some "p1", ["x", "y", "h"]), (some "p2", ["u"]), (some "x", []), (some "y", []),
                 (some "h", []), (some "u", []), (some "f", [])],
    transitions := [{ id := 0, source := "a", target := some "y", event := some "e" },
                    { id := 1, source := "p", target := some "a", event := some "back" },
                    { id := 2, source := "a", target := some "h", event := some "again" },
                    { id := 3, source := "x", target := some "y", event := some "n" },
                    { id := 4, source := "a", target := some "f", event := some "end" }] }

theorem exChart_wf : WFChart exChart := wfB_sound exChart (by decide)

example : WFChart exChart := exChart_wf

example : Legal exChart ["r", "p", "p1", "p2", "y", "u"] := legalB_sound exChart _ (by decide) (by decide)

end Sismic.C02
