import Sismic.Proofs.Import
import Sismic.Proofs.ImportErr
/-!
# Property C12 — YAML import accepts only structurally sound statecharts

`importYamlData` models `import_from_yaml` after the YAML text was loaded (`Data`): schema
validation (`schemaValidate`, the semantics of the `schema` library on the shapes `SCHEMA` uses),
`import_from_dict` (`importDict`: work list, `add_state`, `add_transition`) and `validate()`.

Proved: whatever is accepted is `Sound` (every rule listed in the property), nothing of the
document is dropped on the way, the named faults are rejected with `StatechartError`, and
**no document at all** makes the import raise anything but `StatechartError`
(`never_another_exception`: the schema makes every uncaught access of `import_from_dict` safe,
and the work list terminates).
-/
namespace Sismic.C12

/-- **Accepted ⇒ sound.**  Unique state names; every state has one parent entry; a parent is a
    composite state registered before its child, compound if the child is a history state; one
    root, not a history state (one tree); children lists list children; transitions start from
    states that may own transitions and point to existing states; `validate()` holds. -/
theorem accepted_is_sound (fuel : Nat) (d : Data) (c : Chart) (h : importYamlData fuel d = .ok c) :
    Sound c := by
  unfold importYamlData at h
  split at h
  · exact absurd h (by simp)
  · exact importDict_sound _ _ c h

/-- `validate()`, spelled out: **every declared initial state is a direct child** … -/
theorem initial_is_direct_child (c : Chart) (h : Sound c) (s : StateDef) (hs : s ∈ c.states)
    (hk : s.kind = .compound) (i : Name) (hi : s.initial = some i) :
    c.hasState i = true ∧ c.parentFor i = some s.name := by
  have hv := h.valid
  simp only [Chart.validate, Bool.and_eq_true, List.all_eq_true] at hv
  have := hv.1 s hs
  simp only [hk, beq_self_eq_true, if_true, hi, Bool.and_eq_true] at this
  exact ⟨this.1, h.tree.children s.name i (by simpa using this.2)⟩

/-- … **and every history memory a sibling other than the history state itself**. -/
theorem memory_is_other_sibling (c : Chart) (h : Sound c) (s : StateDef) (hs : s ∈ c.states)
    (hk : s.kind.isHistory = true) (m : Name) (hm : s.memory = some m) :
    m ≠ s.name ∧ c.hasState m = true ∧ ∃ p, c.parentFor s.name = some p ∧ c.parentFor m = some p := by
  have hv := h.valid
  simp only [Chart.validate, Bool.and_eq_true, List.all_eq_true] at hv
  have := hv.2 s hs
  simp only [hk, if_true, hm, Bool.and_eq_true, bne_iff_ne, ne_eq] at this
  obtain ⟨⟨h1, h2⟩, h3⟩ := this
  refine ⟨h1, h2, ?_⟩
  cases hp : c.parentFor s.name with
  | none => rw [hp] at h3; exact absurd h3 (by simp)
  | some p =>
    rw [hp] at h3
    exact ⟨p, rfl, h.tree.children p m (by simpa using h3)⟩

/-- **Never another exception type.**  For every loaded document `d` — valid, faulty in any
    combination of ways, or arbitrary — the outcome is a statechart or `StatechartError`. -/
theorem never_another_exception (fuel : Nat) (d : Data) :
    (∃ c, importYamlData fuel d = .ok c) ∨ importYamlData fuel d = .error .statechart := by
  have h := importYamlData_not_other fuel d
  cases hr : importYamlData fuel d with
  | ok c => exact Or.inl ⟨c, rfl⟩
  | error e =>
    cases e with
    | statechart => exact Or.inr rfl
    | other => exact absurd hr h

/-- **A schema violation is a `StatechartError`** (unknown keys, wrong types, unknown `type` or
    `priority`, missing `name`/`root state`: whatever `schemaValidate` rejects). -/
theorem schema_violation_is_statechart_error (fuel : Nat) (d : Data) (h : schemaValidate fuel d = none) :
    importYamlData fuel d = .error .statechart := by
  simp [importYamlData, h]

/-- unknown keys are schema violations, at every dict of the schema -/
theorem unknown_key_rejected (spec : List (String × Bool × (Data → V Data))) (m : List (String × Data))
    (k : String) (v : Data) (hk : (k, v) ∈ m) (hs : spec.find? (fun s => s.1 == k) = none) :
    vDict spec (.map m) = none := by
  obtain ⟨pre, post, rfl⟩ := List.append_of_mem hk
  have hstep : ∀ acc, vDictStep spec acc (k, v) = none := fun acc => by
    cases acc <;> simp [vDictStep, Option.bind, hs]
  simp only [vDict, List.foldl_append, List.foldl_cons, hstep, foldl_vDictStep_none]

/-- **Both `states` and `parallel states`** (non-empty) in one state: `StatechartError`. -/
theorem both_child_kinds_rejected (m : List (String × Data)) (name : String) (a b : Data)
    (hn : (Data.map m).get? "name" = some (.str name))
    (ha : (Data.map m).get? "states" = some a) (hb : (Data.map m).get? "parallel states" = some b)
    (hat : a.truthy = true) (hbt : b.truthy = true)
    (he : getStripped (.map m) "on entry" ≠ .error ()) (hx : getStripped (.map m) "on exit" ≠ .error ()) :
    importState (.map m) = .error .statechart := by
  have strip : ∀ k, getStripped (.map m) k ≠ .error () → ∃ v, stripField (.map m) k = .ok v := fun k h => by
    unfold stripField
    cases h1 : getStripped (.map m) k with
    | error e => exact absurd h1 h
    | ok v => exact ⟨v, rfl⟩
  obtain ⟨v1, e1⟩ := strip _ he
  obtain ⟨v2, e2⟩ := strip _ hx
  simp [importState, hn, e1, e2, truthyAt, ha, hb, hat, hbt]

/-- whatever `_import_state_from_dict` raises surfaces as `StatechartError` -/
theorem state_errors_are_statechart_errors (f : Nat) (d : Data) (par : Option Name)
    (todo : List (Data × Option Name)) (sts : List (StateDef × Option Name)) (ts : List Trans) (e : IOErr)
    (h : importState d = .error e) :
    importLoop (f + 1) (todo ++ [(d, par)]) sts ts = .error .statechart := by
  rw [importLoop_snoc, h]

/-- **Nothing is dropped**: an accepted chart contains exactly the states and transitions the
    work list collected, in that order (so a rule broken anywhere in the document is seen by
    `add_state` / `add_transition` / `validate`). -/
theorem all_registered (c0 c : Chart) (sts : List (StateDef × Option Name)) (ts : List Trans)
    (h : buildChart c0 sts ts = .ok c) :
    c.states = c0.states ++ sts.map (·.1) ∧
    c.transitions.map (fun t => { t with id := 0 }) =
      (c0.transitions ++ ts).map (fun t => { t with id := 0 }) := by
  obtain ⟨c1, h1, h2, _⟩ := buildChart_ok.mp h
  have s1 := (foldl_bind_rule addStateStep sts
    (fun done b => b.states = c0.states ++ done.map (·.1) ∧ b.transitions = c0.transitions) (fun _ => True)
    (fun done p _ b _ hb => ⟨fun b' hf => by
      obtain ⟨hok, rfl⟩ := addStateStep_ok.mp hf
      obtain ⟨_, hst, _, _, htr, _⟩ := Chart.addState_effect b p.1 p.2 hok
      rw [hst, htr, hb.1, hb.2]
      simp, fun _ _ => trivial⟩)
    sts [] c0 rfl ⟨by simp, rfl⟩).1 c1 h1
  have s2 := (foldl_bind_rule addTransStep ts
    (fun done b => b.states = c1.states ∧
      b.transitions.map (fun t => { t with id := 0 }) = (c1.transitions ++ done).map (fun t => { t with id := 0 }))
    (fun _ => True)
    (fun done t _ b _ hb => ⟨fun b' hf => by
      obtain ⟨hok, rfl⟩ := addTransStep_ok.mp hf
      obtain ⟨he, _, _⟩ := Chart.addTransition_effect b _ hok
      rw [he]
      simp [hb.1, hb.2], fun _ _ => trivial⟩)
    ts [] c1 rfl ⟨rfl, by simp⟩).1 c h2
  rw [s2.1, s1.1, s2.2, s1.2]
  exact ⟨rfl, rfl⟩

end Sismic.C12
