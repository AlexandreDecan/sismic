import Sismic.Proofs.OkSpec
import Sismic.Proofs.Times
import Sismic.Model.Py
/-!
# Property C13 — time is frozen per step

The clock is read once: `executeOnce` receives the value `clock` that `self.clock.time` returned.
`after(d)` / `idle(d)`: what the predicates compute (`after_semantics`, `idle_semantics`), which
times the guard of a transition is given (`guard_sees`), and when those times are written
(`entry_records_times`), and that nothing else writes them
(`times_written_only_by_steps`: for every outcome of `execute_once` a recorded time changes only to
the step time, and a state active afterwards either was active with the same entry time or has the
step time as entry time), so that every active state always has a recorded entry time
(`active_states_have_entry_time`: `after()` in a guard never meets a missing time).
-/
namespace Sismic.C13
open M

variable {σ ω : Type} (env : Env σ ω)

/-- **Frozen.** Whatever happens during the call (normal return or exception, however the real
    clock moves meanwhile), when `execute_once` is left the interpreter's time is the value
    sampled when it was called. -/
theorem time_is_the_sampled_value (clock : Int) (rs : RS σ ω) :
    (executeOnce env clock rs).2.st.time = clock :=
  (executeOnce_time env clock rs).1

/-- `MacroStep.time` is that value. -/
theorem macrostep_time (clock : Int) (rs rs' : RS σ ω) (ms : MacroStep)
    (h : executeOnce env clock rs = (.ok (some ms), rs')) : ms.time = clock := by
  obtain ⟨_, _, _, ht, _⟩ := executeOnce_some env clock rs rs' ms h
  exact ht

/-- The first thing logged is `step started` carrying that value. -/
theorem step_started_carries_it (clock : Int) (rs rs' : RS σ ω) (r : Option MacroStep)
    (h : executeOnce env clock rs = (.ok r, rs')) :
    ∃ rest, rs'.eff = rs.eff ++ .metaEv (metaStarted clock) :: rest := by
  cases r with
  | none =>
    obtain ⟨_, _, _, heff, _⟩ := executeOnce_none env clock rs rs' h
    exact ⟨_, heff⟩
  | some ms =>
    obtain ⟨_, _, _, _, _, _, heff, _⟩ := executeOnce_some env clock rs rs' ms h
    exact ⟨_, heff⟩

/-- Nothing but `execute_once` changes the interpreter's time: queueing an event does not. -/
theorem queue_keeps_time (i : Bool) (e : Event) (rs : RS σ ω) :
    ((queueEvent (σ := σ) (ω := ω) i e) rs).2.st.time = rs.st.time := by
  cases i <;> rfl

/-! ### `after` and `idle` -/

/-- `after(d)` is true iff at least `d` time units separate the step time from the recorded entry time -/
theorem after_semantics (penv : PyEnv) (st : PySt) (d t0 : Int) (h : penv.entryT = some (some t0)) :
    callFn penv st "after" [.int d] [] = (some (.bool (decide (penv.time - d ≥ t0))), st) := by
  unfold callFn
  simp only [h, Val.asInt?]

/-- `idle(d)` likewise with the recorded idle time -/
theorem idle_semantics (penv : PyEnv) (st : PySt) (d t0 : Int) (h : penv.idleT = some (some t0)) :
    callFn penv st "idle" [.int d] [] = (some (.bool (decide (penv.time - d ≥ t0))), st) := by
  unfold callFn
  simp only [h, Val.asInt?]

/-- the guard of a transition is evaluated with the interpreter's (frozen) step time and the entry
    and idle times recorded for the transition's *source* state -/
theorem guard_sees (st : IState PyCtx) (t : Trans) (ev : Option Event) (code : Code) (h : t.guard = some code) :
    pyGuard st t ev = pyEval { viewEnv st with
      event := some ev,
      entryT := some (assocGet t.source st.entryTime),
      idleT := some (assocGet t.source st.idleTime) } st.ctx code ∧
    (viewEnv st).time = st.time := by
  simp [pyGuard, h, viewEnv]

/-- **Entering a state records the step time** as its entry time and as its idle time. -/
theorem entry_records_times (step : Micro) (s : StateDef) (rs rs' : RS σ ω) (sent : List Sent)
    (h : enterState env step s rs = (.ok sent, rs')) :
    assocGet s.name rs'.st.entryTime = some rs'.st.time ∧ assocGet s.name rs'.st.idleTime = some rs'.st.time := by
  unfold enterState at h
  obtain ⟨_, r1, _, h⟩ := bind_ok.mp h
  obtain ⟨_, r2, _, h⟩ := bind_ok.mp h
  obtain ⟨_, r3, _, h⟩ := bind_ok.mp h
  obtain ⟨_, r4, h4, h⟩ := bind_ok.mp h
  -- after the assignment that records the times only the external queue may change
  obtain ⟨q, hq⟩ : ExtQOnly r4 rs' :=
    Rel.of_eq h (Rel.bind ExtQOnly_pre (extq_raiseMeta env _) fun _ => Rel.pure ExtQOnly_pre _)
  rw [hq, modify_ok.mp h4]
  exact ⟨assocGet_assocSet_same _ _ _, assocGet_assocSet_same _ _ _⟩

/-- **Nothing else writes the recorded times** — for every outcome of `execute_once` (normal
    return or exception): an entry / idle time changes only to the step time, and every state active
    afterwards either was already active and kept its entry time, or has the step time as its entry
    time (it became active during this call). -/
theorem times_written_only_by_steps (clock : Int) (rs : RS σ ω) :
    let rs' := (executeOnce env clock rs).2
    (∀ s, assocGet s rs'.st.entryTime = assocGet s rs.st.entryTime ∨ assocGet s rs'.st.entryTime = some clock) ∧
    (∀ s, assocGet s rs'.st.idleTime = assocGet s rs.st.idleTime ∨ assocGet s rs'.st.idleTime = some clock) ∧
    (∀ s, s ∈ rs'.st.config →
      (s ∈ rs.st.config ∧ assocGet s rs'.st.entryTime = assocGet s rs.st.entryTime) ∨
      assocGet s rs'.st.entryTime = some clock) :=
  executeOnce_times env clock rs

/-- every active state has a recorded entry time -/
def Timed (st : IState σ) : Prop := ∀ s, s ∈ st.config → (assocGet s st.entryTime).isSome = true

/-- any history: calls of `execute_once` (whatever they return or raise) and anything that leaves
    configuration and recorded entry times alone (queueing, clock moves, context changes) -/
inductive Hist : RS σ ω → RS σ ω → Prop
  | refl (rs) : Hist rs rs
  | step {rs rs2} (clock : Int) : Hist (executeOnce env clock rs).2 rs2 → Hist rs rs2
  | other {rs rs1 rs2} : rs1.st.config = rs.st.config → rs1.st.entryTime = rs.st.entryTime → Hist rs1 rs2 → Hist rs rs2

/-- **Active states always have an entry time**, in every state reachable by any history from a
    fresh interpreter (whose configuration is empty): `after(d)` of a transition whose source is
    active never meets a missing entry time, also after steps that raised. -/
theorem active_states_have_entry_time (rs rs' : RS σ ω) (h : Hist env rs rs') (h0 : Timed rs.st) : Timed rs'.st := by
  induction h with
  | refl => exact h0
  | step clock _ ih =>
    apply ih
    intro s hs
    rcases (executeOnce_times env clock _).2.2 s hs with ⟨hb, he⟩ | he
    · rw [he]; exact h0 s hb
    · rw [he]; rfl
  | other hc he _ ih =>
    apply ih
    intro s hs
    rw [hc] at hs; rw [he]; exact h0 s hs

example (st : IState σ) (h : st.config = []) : Timed st := by intro s hs; rw [h] at hs; cases hs

end Sismic.C13
