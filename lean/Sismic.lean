import Sismic.Model.Basic
import Sismic.Model.Select
import Sismic.Model.Plan
import Sismic.Model.Interp
import Sismic.Model.Py
import Sismic.Model.World
import Sismic.Spec.WF
import Sismic.Proofs.Lists
import Sismic.Proofs.Tree
import Sismic.Proofs.GroupBy
import Sismic.Proofs.Select
import Sismic.Spec.C01
import Sismic.Proofs.C01
import Sismic.Props.C01
import Sismic.Model.Clock
import Sismic.Proofs.Clock
import Sismic.Props.C14
import Sismic.Model.Edit
import Sismic.Model.IO
import Sismic.Model.Bdd
import Sismic.Model.Runner
import Sismic.Proofs.Hoare
import Sismic.Proofs.Frame
import Sismic.Spec.Run
import Sismic.Proofs.OkSpec
import Sismic.Proofs.LogFilters
import Sismic.Proofs.C03
import Sismic.Props.C03
import Sismic.Proofs.ErrSpec
import Sismic.Props.C08
import Sismic.Props.C10
import Sismic.Props.C13
import Sismic.Proofs.Queue
import Sismic.Proofs.Walk2
import Sismic.Proofs.QueueInv
import Sismic.Proofs.Times
import Sismic.Props.C05
import Sismic.Proofs.C04
import Sismic.Props.C04
import Sismic.Props.C19
import Sismic.Proofs.Runner
import Sismic.Props.C20
import Sismic.Proofs.Edit
import Sismic.Proofs.EditInv
import Sismic.Proofs.OldStore
import Sismic.Proofs.Rename
import Sismic.Proofs.Equivariant
import Sismic.Proofs.EquivSelect
import Sismic.Proofs.EquivPlan
import Sismic.Proofs.EquivRun
import Sismic.Proofs.RoundTripRun
import Sismic.Proofs.PyRename
import Sismic.Proofs.EditTree
import Sismic.Proofs.EditRefs
import Sismic.Proofs.EditValid
import Sismic.Proofs.EditAddIff
import Sismic.Proofs.EditAcyclic
import Sismic.Proofs.EditRemove
import Sismic.Props.C16
import Sismic.Props.C17
import Sismic.Proofs.C09
import Sismic.Props.C09
import Sismic.Proofs.C15
import Sismic.Props.C15
import Sismic.Proofs.Sort
import Sismic.Proofs.C06
import Sismic.Props.C06
import Sismic.Props.C07
import Sismic.Props.C18
import Sismic.Props.C02
import Sismic.Proofs.Import
import Sismic.Proofs.ImportErr
import Sismic.Props.C12
import Sismic.Proofs.RoundTrip
import Sismic.Proofs.RoundTripTree
import Sismic.Proofs.RoundTripBuild
import Sismic.Props.C11
